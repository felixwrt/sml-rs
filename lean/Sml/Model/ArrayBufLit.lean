import Sml.Model.Buf
/-
  Literal, statement-by-statement transcription of `ArrayBuf<N>` (src/util.rs:113-150).

  `Sml/Model/Buf.lean` models every `Buffer` operation of `ArrayBuf<N>` by its net effect and its
  out-of-memory result (`BufRes.oom`) carries no post-state.  "A failing operation leaves the
  contents unchanged" is then true by construction.  Here every operation is a state transformer
  whose result carries the post-state of `*self` in EVERY outcome (`LitRes`), and the Rust order of
  checks and writes is kept: each Rust statement is one `let`/`match` step below, introduced by the
  source line it transcribes.  If somebody moved the capacity check of `extend_from_slice` behind
  the copy, the transcription would change and `Sml.C18.oom_unchanged` would fail (see the mutants
  at the end of `Sml/Lemmas/ArrayBufLiteral.lean`).

  State: the existing structure `ArrayBuf` (backing list of exactly `N` bytes + `num_elements`).
  `self.N` is the const generic `N` (= length of the backing array).

  Panics of the Rust code (array index, range slicing, `copy_from_slice` length check, `unwrap`)
  are explicit `panic` outcomes.  `usize` arithmetic is modelled in `Nat`: with
  `num_elements ≤ N ≤ isize::MAX` and `other.len() ≤ isize::MAX` the sum in util.rs:143 is below
  `usize::MAX`, as in `Buf.lean`.
-/
namespace Sml

/-- Result of one literal `ArrayBuf` operation.  `ok a` = `Ok(())` with `*self = a` afterwards,
    `oom a` = `Err(OutOfMemory)` with `*self = a` afterwards, `panic` = the thread panics. -/
inductive LitRes where
  | ok (a : ArrayBuf)
  | oom (a : ArrayBuf)
  | panic (site : String)
  deriving Repr, DecidableEq

/-- forget the post-state of the `Err(OutOfMemory)` outcome (the result type of `Buf.lean`) -/
def LitRes.toBufRes : LitRes → BufRes ArrayBuf
  | .ok a => .ok a
  | .oom _ => .oom
  | .panic s => .panic s

namespace ArrayBufLit

/-! ### the primitive slice / array operations used by util.rs:123-150 -/

/-- `arr[i] = b` (`IndexMut<usize>` on `[u8; N]`): `none` = panic when `i ≥ arr.len()` -/
def indexSet (arr : List UInt8) (i : Nat) (b : UInt8) : Option (List UInt8) :=
  if i < arr.length then some (arr.set i b) else Option.none

/-- `&mut s[start..]` (`RangeFrom`): `none` = panic when `start > s.len()`.  Returns the part of
    `s` in front of the view (not reachable through the view) and the view itself. -/
def sliceFrom (s : List UInt8) (start : Nat) : Option (List UInt8 × List UInt8) :=
  if start ≤ s.length then some (s.take start, s.drop start) else Option.none

/-- `&mut s[..stop]` (`RangeTo`): `none` = panic when `stop > s.len()`.  Returns the view and the
    part of `s` behind it. -/
def sliceTo (s : List UInt8) (stop : Nat) : Option (List UInt8 × List UInt8) :=
  if stop ≤ s.length then some (s.take stop, s.drop stop) else Option.none

/-- `dst.copy_from_slice(src)`: `none` = panic when the lengths differ; otherwise every byte of
    the view `dst` is overwritten by `src` -/
def copyFromSlice (dst src : List UInt8) : Option (List UInt8) :=
  if dst.length = src.length then some src else Option.none

/-! ### `impl<const N: usize> Buffer for ArrayBuf<N>` (util.rs:123-150) -/

/-- util.rs:124-132
```
fn push(&mut self, b: u8) -> Result<(), OutOfMemory> {
    if self.num_elements == N {
        Err(OutOfMemory)
    } else {
        self.buffer[self.num_elements] = b;
        self.num_elements += 1;
        Ok(())
    }
}
``` -/
def push (self : ArrayBuf) (b : UInt8) : LitRes :=
  -- 125: if self.num_elements == N {
  if self.numElements = self.N then
    -- 126: Err(OutOfMemory)
    .oom self
  else
    -- 128: self.buffer[self.num_elements] = b;
    match indexSet self.buffer self.numElements b with
    | Option.none => .panic "util.rs:128 index out of bounds"
    | some buffer1 =>
      let self1 : ArrayBuf := { self with buffer := buffer1 }
      -- 129: self.num_elements += 1;
      let self2 : ArrayBuf := { self1 with numElements := self1.numElements + 1 }
      -- 130: Ok(())
      .ok self2

/-- util.rs:134-136
```
fn truncate(&mut self, len: usize) {
    self.num_elements = self.num_elements.min(len);
}
``` -/
def truncate (self : ArrayBuf) (len : Nat) : LitRes :=
  -- 135: self.num_elements = self.num_elements.min(len);
  let self1 : ArrayBuf := { self with numElements := min self.numElements len }
  .ok self1

/-- util.rs:138-140
```
fn clear(&mut self) {
    self.num_elements = 0;
}
``` -/
def clear (self : ArrayBuf) : LitRes :=
  -- 139: self.num_elements = 0;
  let self1 : ArrayBuf := { self with numElements := 0 }
  .ok self1

/-- util.rs:142-149
```
fn extend_from_slice(&mut self, other: &[u8]) -> Result<(), OutOfMemory> {
    if self.num_elements + other.len() > N {
        return Err(OutOfMemory);
    }
    self.buffer[self.num_elements..][..other.len()].copy_from_slice(other);
    self.num_elements += other.len();
    Ok(())
}
``` -/
def extendFromSlice (self : ArrayBuf) (other : List UInt8) : LitRes :=
  -- 143: if self.num_elements + other.len() > N {
  if self.numElements + other.length > self.N then
    -- 144: return Err(OutOfMemory);          (nothing has been written yet)
    .oom self
  else
    -- 146: self.buffer[self.num_elements..]
    match sliceFrom self.buffer self.numElements with
    | Option.none => .panic "util.rs:146 range start index out of range"
    | some (front, view1) =>
    -- 146:                               [..other.len()]
    match sliceTo view1 other.length with
    | Option.none => .panic "util.rs:146 range end index out of range"
    | some (view2, back) =>
    -- 146:                                              .copy_from_slice(other);
    match copyFromSlice view2 other with
    | Option.none => .panic "util.rs:146 copy_from_slice length mismatch"
    | some view2' =>
      let self1 : ArrayBuf := { self with buffer := front ++ view2' ++ back }
      -- 147: self.num_elements += other.len();
      let self2 : ArrayBuf := { self1 with numElements := self1.numElements + other.length }
      -- 148: Ok(())
      .ok self2

/-! ### `impl<const N: usize> FromIterator<u8> for ArrayBuf<N>` (util.rs:113-121) -/

/-- the `for x in iter.into_iter() { buf.push(x).unwrap(); }` loop (util.rs:116-118) -/
def fromIterLoop (buf : ArrayBuf) : List UInt8 → LitRes
  -- 119: buf                                  (iterator exhausted: fall through to line 119)
  | [] => .ok buf
  | x :: iter =>
    -- 117: buf.push(x)
    match push buf x with
    -- 117:            .unwrap();             (Ok: continue with the mutated `buf`)
    | .ok buf1 => fromIterLoop buf1 iter
    -- 117:            .unwrap();             (Err: panic)
    | .oom _ => .panic "util.rs:117 unwrap on OutOfMemory"
    | .panic s => .panic s

/-- util.rs:114-120
```
fn from_iter<T: IntoIterator<Item = u8>>(iter: T) -> Self {
    let mut buf = ArrayBuf::default();
    for x in iter.into_iter() {
        buf.push(x).unwrap();
    }
    buf
}
```
`n` is the const generic `N`.  The result is `ok buf` (the returned value) or a panic; never `oom`. -/
def fromIter (n : Nat) (iter : List UInt8) : LitRes :=
  -- 115: let mut buf = ArrayBuf::default();
  let buf := ArrayBuf.new n
  -- 116-119
  fromIterLoop buf iter

end ArrayBufLit

end Sml
