import Sml.Props.C10
import Sml.Lemmas.StreamTail
#print axioms Sml.C10.reader_results
#print axioms Sml.C10.expected_ne_none
#print axioms Sml.C10.none_iff_end
#print axioms Sml.C10.decoder_results
#print axioms Sml.C10.reader_results_calls
#print axioms Sml.C10.sml_calls_eq_adapt
#print axioms Sml.C10.sml_results_calls
#print axioms Sml.C10.present_payload
#print axioms Sml.C10.present_file
#print axioms Sml.C10.present_noise
#print axioms Sml.C10.present_end
#print axioms Sml.C10.sml_results_next
#print axioms Sml.C10.sml_results_target
#print axioms Sml.C10.payloads_in_order
#print axioms Sml.C10.files_in_order
#print axioms Sml.C10.events_in_order
#print axioms Sml.C10.equals_hand_composition
#print axioms Sml.C10.equals_decode_then_parse
#print axioms Sml.C10.encoded_vec
#print axioms Sml.C10.encoded_iter
#print axioms Sml.C10.encoded_eq_frame
#print axioms Sml.C10.encoded_stream_eq
#print axioms Sml.C10.reader_results_encoded
#print axioms Sml.C10.sample_hyp
#print axioms Sml.C10.sample_enc
#print axioms Sml.C10.reader_results_of_tail
#print axioms Sml.C10.reader_results_tail_cut
#print axioms Sml.C10.reader_results_tail_cut_normal
#print axioms Sml.C10.reader_results_calls_tail_cut
#print axioms Sml.C10.reader_results_tail_partial_start
#print axioms Sml.C10.reader_results_tail_cut_cut
#print axioms Sml.C10.reader_results_tail_start
