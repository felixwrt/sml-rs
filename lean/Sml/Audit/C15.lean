import Sml.Props.C15
import Sml.Lemmas.BufferIndependence
import Sml.Props.C15Vec
#print axioms Sml.C15.decode_eq
#print axioms Sml.C15.iter_take_eq
#print axioms Sml.C15.iter_eq
#print axioms Sml.C15.iter_eq_of_lt
#print axioms Sml.C15.iter_later_none
#print axioms Sml.C15.finalItem_cases
#print axioms Sml.C15.reader_eq
#print axioms Sml.C15.buffer_independent
#print axioms Sml.C15.buffer_independent_final
#print axioms Sml.C15.reference_buffer_independent
#print axioms Sml.Dec.pushAll_noOom
#print axioms Sml.C15.fresh_rel
#print axioms Sml.C15.buffer_independent_noOom
#print axioms Sml.C15.first_difference_is_oom
#print axioms Sml.C15.vec_no_oom
#print axioms Sml.C15.differ_iff_oom
#print axioms Sml.C15.first_difference_exists
#print axioms Sml.C15.reference_buffer_independent_noOom
#print axioms Sml.C15.fallible_push_eq_reference
#print axioms Sml.C15.fallible_push_eq_decode
#print axioms Sml.C15.fallible_cap_push_eq
