import Sml.Props.C07
/- Axiom audit for property C07: only propext / Classical.choice / Quot.sound may appear. -/
#print axioms Sml.C07.buf_eq_spec
#print axioms Sml.C07.buf_vec
#print axioms Sml.C07.buf_array
#print axioms Sml.C07.buf_oom_iff
#print axioms Sml.C07.iter_eq_spec
#print axioms Sml.C07.iter_fused
#print axioms Sml.C07.encoders_agree
#print axioms Sml.C07.stuff_no_1b
#print axioms Sml.C07.stuff_cons_ne
#print axioms Sml.C07.stuff_run_general
#print axioms Sml.C07.stuff_run
#print axioms Sml.crc16_check_value
