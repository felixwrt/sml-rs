import Sml.Props.C01
import Sml.Lemmas.StopAtFrameEnd
/- Axiom audit for property C01: only propext / Classical.choice / Quot.sound may appear. -/
#print axioms Sml.C01.roundtrip_push
#print axioms Sml.C01.roundtrip_finalize
#print axioms Sml.C01.roundtrip_state
#print axioms Sml.C01.roundtrip_decode
#print axioms Sml.C01.roundtrip_iter
#print axioms Sml.C01.roundtrip_reader_next
#print axioms Sml.C01.roundtrip_reader_read
#print axioms Sml.C01.collect_bytes
#print axioms Sml.C01.roundtrip_encodeBuf
#print axioms Sml.C01.roundtrip_encodeIter
#print axioms Sml.C01.encodeIter_bytes
#print axioms Sml.frame_tail_decodes
#print axioms Sml.start_decodes
#print axioms Sml.C01.delivers_after
#print axioms Sml.C01.after_boundary
#print axioms Sml.C01.pull_delivers_append
#print axioms Sml.C01.iter_stops_at_frame_end
#print axioms Sml.C01.readLoop_delivers_append
#print axioms Sml.C01.reader_stops_at_frame_end
#print axioms Sml.C01.reader_call_stops_at_frame_end
#print axioms Sml.C01.reader_next_stops_at_frame_end
#print axioms Sml.C01.reader_readNb_stops_at_frame_end
#print axioms Sml.C01.reader_nextNb_stops_at_frame_end
#print axioms Sml.C01.calls_through_faults
#print axioms Sml.C01.reader_stops_at_frame_end_faults
#print axioms Sml.C01.reads_stop_at_frame_end_faults
#print axioms Sml.C01.nextNbs_stop_at_frame_end_faults
#print axioms Sml.C01.iter_continues_fresh
#print axioms Sml.C01.iter_frame_then
#print axioms Sml.C01.reader_continues_fresh
#print axioms Sml.C01.reader_frame_then
