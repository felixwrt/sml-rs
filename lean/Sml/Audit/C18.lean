import Sml.Props.C18
import Sml.Props.C18Dec
import Sml.Lemmas.ArrayBufLiteral

#print axioms Sml.C18.step_refines
#print axioms Sml.C18.run_refines
#print axioms Sml.C18.fromIter_ok
#print axioms Sml.C18.fromIter_overflow
#print axioms Sml.C18.eq_debug_visible_only
#print axioms Sml.C18.buf_refines
#print axioms Sml.C18.buf_run_refines
#print axioms Sml.C18.pushByte_refines
#print axioms Sml.C18.push_refines
#print axioms Sml.C18.reset_finalize_refine
#print axioms Sml.C18.step_refines_dec
#print axioms Sml.C18.push_never_panics
#print axioms Sml.C18.run_refines_dec
#print axioms Sml.C18.decoder_on_arraybuf
#print axioms Sml.C18.stale_bytes_never_leak
#print axioms Sml.C18.stale_bytes_never_leak'
#print axioms Sml.C18.fromBuf_any_buffer
#print axioms Sml.C18.fromBuf_contents_irrelevant
#print axioms Sml.C18.no_panic_arraybuf
#print axioms Sml.C18.sound_arraybuf
#print axioms Sml.C18.sound_stream_fromBuf
#print axioms Sml.C18.roundtrip_push_fromBuf
#print axioms Sml.C18.roundtrip_push_arraybuf
#print axioms Sml.C18.lit_push_eq
#print axioms Sml.C18.lit_extend_eq
#print axioms Sml.C18.lit_eq_model
#print axioms Sml.C18.lit_fromIterLoop_eq
#print axioms Sml.C18.lit_fromIter_eq
#print axioms Sml.C18.tag_eq_of_toBufRes
#print axioms Sml.C18.push_oom_unchanged
#print axioms Sml.C18.extend_oom_unchanged
#print axioms Sml.C18.oom_unchanged
#print axioms Sml.C18.oom_unchanged_abs
#print axioms Sml.C18.truncate_clear_ok
#print axioms Sml.C18.fromIterLoop_ne_oom
#print axioms Sml.C18.lit_push_WF
#print axioms Sml.C18.lit_extend_cases
#print axioms Sml.C18.no_panic_lit
#print axioms Sml.C18.extend_never_panics
#print axioms Sml.C18.lit_ok_WF
#print axioms Sml.C18.lit_eq_model_WF
#print axioms Sml.C18.oom_unchanged_run_from
#print axioms Sml.C18.oom_unchanged_run
#print axioms Sml.C18.litRun_eq_run
#print axioms Sml.C18.litRun_chain
#print axioms Sml.C18.no_panic_lit_run
