import Sml.Props.C04
import Sml.Lemmas.StreamingVerified
#print axioms Sml.C04.sound
#print axioms Sml.C04.iff
#print axioms Sml.C04.unique
#print axioms Sml.C04.reject
#print axioms Sml.C04.error_not_enc
#print axioms Sml.C04.sound_streaming
#print axioms Sml.C04.iff_streaming
#print axioms Sml.C04.reject_streaming
#print axioms Sml.C04.sound_tlf
#print axioms Sml.C04.sound_octet
#print axioms Sml.C04.sound_unsigned
#print axioms Sml.C04.sound_signed
#print axioms Sml.C04.sound_time
#print axioms Sml.C04.sound_value
#print axioms Sml.C04.sound_status
#print axioms Sml.C04.sound_entry
#print axioms Sml.C04.sound_valList
#print axioms Sml.C04.sound_open
#print axioms Sml.C04.sound_close
#print axioms Sml.C04.sound_getList
#print axioms Sml.C04.sound_body
#print axioms Sml.C04.sound_message
#print axioms Sml.C04.crc_checked
#print axioms Sml.C04.message_length
#print axioms Sml.C04.empty_iff
#print axioms Sml.C04.trailing_is_file
#print axioms Sml.C04.trailing_short
#print axioms Sml.C04.trailing_byte
#print axioms Sml.C04.prefix_boundary
#print axioms Sml.C04.truncated_short
#print axioms Sml.C04.streaming_unverified_bound_at
#print axioms Sml.C04.streaming_unverified_bound
#print axioms Sml.C04.streaming_verified_when_complete
