import Sml.Props.C05
import Sml.Lemmas.Counters
import Sml.Props.C05Vec
import Sml.Props.C05VecPrefix
#print axioms Sml.C05.inv_fresh
#print axioms Sml.C05.inv_pushByte
#print axioms Sml.C05.inv_push
#print axioms Sml.C05.inv_finalize
#print axioms Sml.C05.inv_reset
#print axioms Sml.C05.inv_bounds
#print axioms Sml.C05.no_panic
#print axioms Sml.C05.inv_reachable
#print axioms Sml.C05.cap_reachable
#print axioms Sml.C05.run_length
#print axioms Sml.C05.decodeAll_no_panic
#print axioms Sml.C05.iter_no_panic
#print axioms Sml.C05.reader_no_panic
#print axioms Sml.C05.reader_inv
#print axioms Sml.C05.encoder_total
#print axioms Sml.C05.encodeBuf_no_panic
#print axioms Sml.C05.encoder_run_length
#print axioms Sml.C05.step_raw_le
#print axioms Sml.C05.run_raw_le
#print axioms Sml.C05.consumed_length_le
#print axioms Sml.C05.pushCount_eq_count
#print axioms Sml.C05.counters_le_stream
#print axioms Sml.C05.counters_le_stream_pushAll
#print axioms Sml.C05.pushCount_map_push
#print axioms Sml.C05.reported_counts_le_segment
#print axioms Sml.C05.pushCount_append
#print axioms Sml.C05.pushCount_take_le
#print axioms Sml.C05.reported_counts_le_stream
#print axioms Sml.C05.reported_counts_le_stream_pushAll
#print axioms Sml.C05.step_refines_or_oom
#print axioms Sml.C05.always_true_eq
#print axioms Sml.C05.always_true_eq_stream
#print axioms Sml.C05.always_true_eq_from
#print axioms Sml.C05.no_panic_fallible
#print axioms Sml.C05.no_panic_fallible_cap
#print axioms Sml.C05.no_panic_fallible_stream
#print axioms Sml.C05.inv_reachable_fallible
#print axioms Sml.C05.inv_step_fallible
#print axioms Sml.C05.run_length_fallible
#print axioms Sml.C05.run_agrees_until_oom
#print axioms Sml.C05.run_eq_of_no_oom
#print axioms Sml.C05.run_eq_of_no_oom_fresh
#print axioms Sml.C05.pushAll_eq_of_no_oom
