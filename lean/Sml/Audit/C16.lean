import Sml.Props.C16
import Sml.Lemmas.OomThenNextFrame
import Sml.Lemmas.NoTruncation
/- Axiom audit for property C16: only propext / Classical.choice / Quot.sound may appear. -/
#print axioms Sml.C16.exact_fit
#print axioms Sml.C16.exact_fit_iter
#print axioms Sml.C16.too_small
#print axioms Sml.C16.ready_after_oom
#print axioms Sml.C16.default_buf_ok
#print axioms Sml.C16.default_buf_oom
#print axioms Sml.Dec.pushByte_rel
#print axioms Sml.Dec.pushAll_rel
#print axioms Sml.C16.next_frame
#print axioms Sml.C16.next_frame_len
#print axioms Sml.C16.next_frame_items
#print axioms Sml.C16.next_frame_reader
#print axioms Sml.C16.startFree_rest_of_no_1b
#print axioms Sml.C16.next_frame_of_no_1b
#print axioms Sml.C16.msg_after_err
#print axioms Sml.C16.too_small_no_truncation
#print axioms Sml.C16.too_small_idle
#print axioms Sml.C16.too_small_no_truncation_idle
