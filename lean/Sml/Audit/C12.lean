import Sml.Props.C12

#print axioms Sml.C12.tlf_eq_spec
#print axioms Sml.C12.tlf_rest
#print axioms Sml.C12.tlf_no_wrap
#print axioms Sml.C12.tlf_no_panic
#print axioms Sml.C12.tlf_long_field
#print axioms Sml.C12.int_exact
#print axioms Sml.C12.value_int_class
#print axioms Sml.C12.value_uns_class
#print axioms Sml.C12.status_class
#print axioms Sml.C12.value_int_reject
#print axioms Sml.C12.narrow_mem
#print axioms Sml.C12.narrow_ge
#print axioms Sml.C12.narrow_check_int
#print axioms Sml.C12.narrow_check_uns
#print axioms Sml.C12.value_int_exact
#print axioms Sml.C12.value_uns_exact
#print axioms Sml.C12.status_exact
#print axioms Sml.C12.bool_exact
#print axioms Sml.C12.octet_exact
#print axioms Sml.C12.tlf_iff
#print axioms Sml.C12.tlf_error_iff
#print axioms Sml.C12.narrow_min
#print axioms Sml.C12.narrow_least
#print axioms Sml.C12.contError_overflow_iff
#print axioms Sml.C12.contError_eq_overflow_iff
#print axioms Sml.C12.tlf_consumes_prefix
#print axioms Sml.C12.tlfSpec_len_le
