import Sml.Props.C08
import Sml.Lemmas.CutFrame
import Sml.Lemmas.StartFree
#print axioms Sml.C08.noise_then_frame
#print axioms Sml.C08.noise_then_frame_state
#print axioms Sml.C08.noise_then_frame_idle
#print axioms Sml.C08.cut_then_frame
#print axioms Sml.C08.cut_state_cap
#print axioms Sml.C08.cut_payload_state
#print axioms Sml.C08.cut_payload_then_frame
#print axioms Sml.C08.cut_then_frame_idle
#print axioms Sml.C08.noise_cut_then_frame
#print axioms Sml.C08.noise_cut
#print axioms Sml.C08.START_no_period
#print axioms Sml.C08.START_length
#print axioms Sml.C08.startFree_iff
