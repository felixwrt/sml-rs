import Sml.Lemmas.GramParses
/-
  Grammar ↔ parser correspondence for SML_Time (incl. the vendor workaround), SML_ListType,
  SML_Value and SML_Status.
-/
namespace Sml.Gram
open Sml Sml.Spec

theorem widthClass_iff (w size : Nat) (hw : w ≤ 8) :
    WidthClass w size ↔ size = C12.narrow w := by
  constructor
  · rintro ⟨h1, h2, h3⟩
    exact Nat.le_antisymm (h3 _ (C12.narrow_mem w) (C12.narrow_ge w hw))
      (C12.narrow_min w size h1 h2)
  · rintro rfl
    exact C12.narrow_least w hw

/-- what follows the type-length field `t` of an `SML_Time` -/
def TimeBody (t : Tlf) (v : Time) (body : Bytes) : Prop :=
  if t.ty = .unsigned ∧ t.len = 4 then body.length = 4 ∧ v = .secIndex (beNat body : Int)
  else ∃ tag val x, body = tag ++ val ∧ EncUnsigned 1 1 tag ∧ EncUnsigned 4 x val ∧
    v = .secIndex x

set_option smartUnfolding false in
theorem parses_timeWith (t : Tlf) : Parses (fun i => parseTimeWith i t) (TimeBody t) := by
  have hq : ∀ i, (match takeN i 4 with
      | .error e => .error e
      | .ok (bytes, rest) => .ok (Time.secIndex (beNat bytes : Int), rest) : PRes Time) =
      if i.length < 4 then .error .unexpectedEOF
      else .ok (Time.secIndex (beNat (i.take 4) : Int), i.drop 4) := by
    intro i
    by_cases hl : i.length < 4 <;> simp [takeN, hl]
  refine (Parses.ite (t.ty = .unsigned ∧ t.len = 4)
    (fun _ => parses_fixed (f := fun b => Time.secIndex (beNat b : Int)) hq)
    fun _ => (parses_unsigned 1).bind fun tag => Parses.guard (tag = 1) .unexpectedVariant
      ((parses_unsigned 4).bind fun x => Parses.pure (Time.secIndex x))).congr fun v bs => ?_
  by_cases hc : t.ty = .unsigned ∧ t.len = 4
  · simp only [TimeBody, hc, and_self, true_and, not_true_eq_false, false_and, or_false, if_true]
  · simp only [TimeBody, hc, false_and, not_false_eq_true, true_and, false_or, if_false]
    constructor
    · rintro ⟨_, tag, _, rfl, h1, rfl, x, val, _, rfl, h2, rfl, rfl⟩
      exact ⟨tag, val, x, by simp, h1, h2, rfl⟩
    · rintro ⟨tag, val, x, rfl, h1, h2, rfl⟩
      exact ⟨1, tag, val ++ [], by simp, h1, rfl, x, val, [], rfl, h2, rfl, rfl⟩

theorem parses_time : Parses parseTime EncTime := by
  unfold parseTime
  refine parses_viaTlf (fun t _ => parses_timeWith t) ?_ ?_
  · rintro ⟨x⟩ bs h
    rcases h with ⟨tl, tag, val, rfl, ht, h1, h2⟩ | ⟨tl, data, rfl, ht, hl, rfl⟩
    · refine ⟨_, tl, tag ++ val, by simp, ht, rfl, ?_⟩
      simp only [TimeBody]
      rw [if_neg (by simp)]
      exact ⟨tag, val, x, rfl, h1, h2, rfl⟩
    · refine ⟨_, tl, data, rfl, ht, rfl, ?_⟩
      simp only [TimeBody, and_self, if_true]
      exact ⟨hl, trivial⟩
  · rintro ⟨x⟩ ⟨ty, len⟩ tl body ht hc hb
    by_cases hu : ty = .unsigned ∧ len = 4
    · obtain ⟨rfl, rfl⟩ := hu
      simp only [TimeBody, and_self, if_true, Time.secIndex.injEq] at hb
      exact Or.inr ⟨tl, body, rfl, ht, hb.1, hb.2⟩
    · simp only [TimeBody, if_neg hu, Time.secIndex.injEq] at hb
      obtain ⟨tag, val, x', rfl, h1, h2, rfl⟩ := hb
      simp only [timeCheck, Bool.or_eq_true, Bool.and_eq_true, decide_eq_true_eq] at hc
      rcases hc with ⟨rfl, rfl⟩ | hc
      · exact Or.inl ⟨tl, tag, val, by simp, ht, h1, h2⟩
      · exact absurd hc hu

set_option smartUnfolding false in
theorem parses_listTypeWith (t : Tlf) : Parses (fun i => parseListTypeWith i t) EncListType := by
  refine ((parses_unsigned 1).bind fun tag => Parses.guard (tag = 1) .unexpectedVariant
    (parses_time.bind fun x => Parses.pure (ListType.time x))).congr fun v bs => ⟨?_, ?_⟩
  · rintro ⟨_, tag, _, rfl, h1, rfl, x, body, _, rfl, h2, rfl, rfl⟩
    exact ⟨tag, body, by simp, h1, h2⟩
  · obtain ⟨x⟩ := v
    rintro ⟨tag, body, rfl, h1, h2⟩
    exact ⟨1, tag, body ++ [], by simp, h1, rfl, x, body, [], rfl, h2, rfl, rfl⟩

/-- what follows the type-length field `t` of an `SML_Value` -/
def ValueBody (t : Tlf) (v : Value) (body : Bytes) : Prop :=
  match t.ty with
  | .boolean => t.len = 1 ∧ body.length = 1 ∧ v = .bool (decide (body.headD 0 ≠ 0))
  | .octetString => body.length = t.len ∧ v = .bytes body
  | .integer => (1 ≤ t.len ∧ t.len ≤ 8) ∧ body.length = t.len ∧
      v = .int (C12.narrow t.len) (Spec.twos body)
  | .unsigned => (1 ≤ t.len ∧ t.len ≤ 8) ∧ body.length = t.len ∧
      v = .uns (C12.narrow t.len) (beNat body : Int)
  | .listOf => t.len = 2 ∧ ∃ l, v = .list l ∧ EncListType l body

/-- by the type of the field: each type is a fixed-length payload (`parses_fixed`) under a condition
    on the announced length (`Parses.of_cond`, a mismatch otherwise); the parser's 11-way cascade
    over the width classes is collapsed by `C12.value_int_exact` / `value_uns_exact` -/
theorem parses_valueWith (t : Tlf) : Parses (fun i => parseValueWith i t) (ValueBody t) := by
  obtain ⟨ty, len⟩ := t
  cases ty with
  | octetString =>
    have hq : ∀ i, parseValueWith i ⟨.octetString, len⟩ =
        if i.length < len then .error .unexpectedEOF
        else .ok (Value.bytes (i.take len), i.drop len) := fun i => by
      rw [show parseValueWith i ⟨.octetString, len⟩ =
        mapRes .bytes (parseOctetWith i ⟨.octetString, len⟩) by
          simp [parseValueWith, boolCheck, octetCheck], C12.octet_exact]
      split <;> rfl
    exact (parses_fixed hq).congr fun v e => by simp only [ValueBody]
  | boolean =>
    have hq : ∀ i, parseValueWith i ⟨.boolean, 1⟩ = if i.length < 1 then .error .unexpectedEOF
        else .ok (Value.bool (decide ((i.take 1).headD 0 ≠ 0)), i.drop 1) := fun i => by
      rw [show parseValueWith i ⟨.boolean, 1⟩ = mapRes .bool (parseBoolWith i ⟨.boolean, 1⟩) from rfl,
        C12.bool_exact]
      cases i <;> rfl
    exact (Parses.of_cond (len = 1) (err := .tlfMismatch)
      (fun hl => by
        subst hl; exact parses_fixed (f := fun b => Value.bool (decide (b.headD 0 ≠ 0))) hq)
      (fun hl i => by
        simp [parseValueWith, boolCheck, octetCheck, numCheck, listTypeCheck, hl])).congr
      fun v e => by simp only [ValueBody]
  | integer =>
    exact (Parses.of_cond (1 ≤ len ∧ len ≤ 8)
      (fun hw => parses_fixed (f := fun b => Value.int (C12.narrow len) (C12.twos b))
        (C12.value_int_exact len hw))
      (fun hw i => (C12.value_int_reject len (by omega) i).1)).congr fun v e => by
        simp only [ValueBody, twos_eq]
  | unsigned =>
    exact (Parses.of_cond (1 ≤ len ∧ len ≤ 8)
      (fun hw => parses_fixed (f := fun b => Value.uns (C12.narrow len) (C12.plain b))
        (C12.value_uns_exact len hw))
      (fun hw i => (C12.value_int_reject len (by omega) i).2.1)).congr fun v e => by
        simp only [ValueBody, C12.plain]
  | listOf =>
    exact (Parses.of_cond (len = 2) (err := .tlfMismatch)
      (fun hl => by subst hl; exact parses_mapRes Value.list (parses_listTypeWith ⟨.listOf, 2⟩))
      (fun hl i => by
        simp [parseValueWith, boolCheck, octetCheck, numCheck, listTypeCheck, hl])).congr
      fun v e => by simp only [ValueBody]

theorem parses_value : Parses parseValue EncValue := by
  unfold parseValue
  refine parses_viaTlf (fun t _ => parses_valueWith t) ?_ ?_
  · intro v bs h
    cases v with
    | bool b =>
      obtain ⟨tl, x, rfl, ht, rfl⟩ := h
      exact ⟨_, tl, [x], rfl, ht, rfl, rfl, rfl, rfl⟩
    | bytes v =>
      obtain ⟨tl, rfl, ht⟩ := h
      exact ⟨_, tl, v, rfl, ht, rfl, rfl, rfl⟩
    | int size v =>
      obtain ⟨tl, data, rfl, ht, h1, h2, hw, rfl⟩ := h
      obtain rfl := (widthClass_iff _ _ h2).1 hw
      exact ⟨_, tl, data, rfl, ht, rfl, ⟨h1, h2⟩, rfl, rfl⟩
    | uns size v =>
      obtain ⟨tl, data, rfl, ht, h1, h2, hw, rfl⟩ := h
      obtain rfl := (widthClass_iff _ _ h2).1 hw
      exact ⟨_, tl, data, rfl, ht, rfl, ⟨h1, h2⟩, rfl, rfl⟩
    | list l =>
      obtain ⟨tl, body, rfl, ht, hl⟩ := h
      exact ⟨_, tl, body, rfl, ht, rfl, rfl, l, rfl, hl⟩
  · rintro v ⟨ty, len⟩ tl body ht _ hb
    cases ty <;> simp only [ValueBody] at hb
    case octetString => obtain ⟨rfl, rfl⟩ := hb; exact ⟨tl, rfl, ht⟩
    case boolean =>
      obtain ⟨rfl, hl, rfl⟩ := hb
      match body, hl with
      | [x], _ => exact ⟨tl, x, rfl, ht, rfl⟩
    case integer =>
      obtain ⟨⟨h1, h2⟩, rfl, rfl⟩ := hb
      exact ⟨tl, body, rfl, ht, h1, h2, (widthClass_iff _ _ h2).2 rfl, rfl⟩
    case unsigned =>
      obtain ⟨⟨h1, h2⟩, rfl, rfl⟩ := hb
      exact ⟨tl, body, rfl, ht, h1, h2, (widthClass_iff _ _ h2).2 rfl, rfl⟩
    case listOf => obtain ⟨rfl, l, rfl, hb⟩ := hb; exact ⟨tl, body, rfl, ht, hb⟩

def StatusBody (t : Tlf) (v : Status) (body : Bytes) : Prop :=
  t.ty = .unsigned ∧ (1 ≤ t.len ∧ t.len ≤ 8) ∧ body.length = t.len ∧
    v = .status (C12.narrow t.len) (beNat body : Int)

theorem parses_statusWith (t : Tlf) : Parses (fun i => parseStatusWith i t) (StatusBody t) := by
  obtain ⟨ty, len⟩ := t
  refine (Parses.of_cond (ty = .unsigned) (err := .tlfMismatch)
    (E := fun v e => (1 ≤ len ∧ len ≤ 8) ∧ e.length = len ∧
      v = Status.status (C12.narrow len) (C12.plain e)) (fun hty => ?_)
    (fun hty i => by simp [parseStatusWith, numCheck, hty])).congr fun v e => by
      simp only [StatusBody, C12.plain]
  subst hty
  exact Parses.of_cond (1 ≤ len ∧ len ≤ 8)
    (fun hw => parses_fixed (f := fun b => Status.status (C12.narrow len) (C12.plain b))
      (C12.status_exact len hw))
    (fun hw i => (C12.value_int_reject len (by omega) i).2.2)

theorem parses_status : Parses parseStatus EncStatus := by
  unfold parseStatus
  refine parses_viaTlf (fun t _ => parses_statusWith t) ?_ ?_
  · rintro ⟨size, v⟩ bs ⟨tl, data, rfl, ht, h1, h2, hw, rfl⟩
    rw [widthClass_iff _ _ h2] at hw
    subst hw
    exact ⟨_, tl, data, rfl, ht, rfl, rfl, ⟨h1, h2⟩, rfl, rfl⟩
  · rintro v ⟨ty, len⟩ tl body ht _ ⟨hty, ⟨h1, h2⟩, hl, rfl⟩
    simp only at hty hl h1 h2
    subst hty hl
    exact ⟨tl, body, rfl, ht, h1, h2, (widthClass_iff _ _ h2).2 rfl, rfl⟩

end Sml.Gram
