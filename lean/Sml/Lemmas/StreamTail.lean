import Sml.Props.C10
import Sml.Lemmas.CutFrame
import Sml.Lemmas.DecWindow
/-
  Property C10 for streams that do NOT end in start-free noise.

  `C10.reader_results` & co. require `StartFree tail`.  The commonest real ending of a captured
  stream is an UNFINISHED TRANSMISSION: start-free noise `g`, then the first `k` bytes of a frame,
  cut anywhere (inside the start sequence, after it, after an earlier cut-off transmission).  For
  each such tail `TailRes` is computed (`tailRes_noise`, `tailRes_cut`, `tailRes_cut_cut`;
  `tailRes_start` for `g ++ START ++ r` with arbitrary `r`) and fed to `reader_results_of_tail`.

  The only capacity hypothesis about the unfinished part is `C08.NoOom` (it does not itself run out
  of memory; implied by `fitsCap cap |m1|`, always true for `Vec`).
-/
namespace Sml.C10

open Spec (frame tileFrom)
open C07 (fitsCap)
open C08 (StartFree NoOom afterStart)
open RF (view)

/-- Any proper prefix `a` of a frame on which the decoder does not run out of memory is consumed
silently, and afterwards `reset` returns `|a|` (so `finalize` reports `DiscardedBytes(|a|)`). -/
theorem cut_any (cap : Option Nat) (m : List UInt8) (k : Nat) (hk : k < (frame m).length)
    (hroom : NoOom cap ((frame m).take k)) :
    (Dec.pushAll (Dec.fresh cap) ((frame m).take k)).2 =
        List.replicate ((frame m).take k).length Out.none ∧
      (Dec.pushAll (Dec.fresh cap) ((frame m).take k)).1.reset.2 = ((frame m).take k).length := by
  obtain ⟨hout, hw⟩ := Resync.cut_window cap m k hk hroom
  exact ⟨hout, hw.reset_count⟩

/-- the noise report as an item -/
def noiseItems (g : List UInt8) : List Item :=
  if g = [] then [] else [Item.err (.discarded g.length)]

/-- `|g| + 7` silent answers: the noise and the start sequence but its last byte, which carries the
noise report -/
theorem items_noise_start (g : List UInt8) (n : Nat) :
    C15.items (List.replicate (g.length + 7) Out.none ++
      [if g = [] then Out.none else Out.err (.discarded g.length)] ++
      List.replicate n Out.none) = noiseItems g := by
  unfold C15.items noiseItems
  simp only [List.filterMap_append, Dec.filterMap_replicate_none, List.nil_append, List.append_nil]
  by_cases h0 : g = []
  · simp [h0, Out.toItem?]
  · simp [h0, Out.toItem?]

theorem items_restart (e : DecErr) (n : Nat) :
    C15.items ((List.replicate 7 Out.none ++ [Out.err e]) ++ List.replicate n Out.none) =
      [Item.err e] := by
  unfold C15.items
  rw [List.filterMap_append, List.filterMap_append, Dec.filterMap_replicate_none,
    Dec.filterMap_replicate_none]
  rfl

/-- Start-free noise, a start sequence, then ANY bytes `r`: the noise report, then the items the
decoder produces for `r` from its post-START state, then the leftover count of that run.  (`r` may
also contain complete frames, further start sequences, …) -/
theorem tailRes_start (cap : Option Nat) (g r : List UInt8) (hg : StartFree g) :
    TailRes cap (g ++ START ++ r)
      (noiseItems g ++ C15.items (Dec.pushAll (afterStart (Dec.fresh cap)) r).2)
      (Dec.pushAll (afterStart (Dec.fresh cap)) r).1.reset.2 := by
  have hns : Dec.pushAll (Dec.fresh cap) (g ++ START) = (afterStart (Dec.fresh cap), _) :=
    Resync.noise_start (Dec.winv_fresh cap) (Dec.inv_fresh cap) g hg
  unfold TailRes
  rw [Dec.pushAll_append, hns]
  simp only
  refine ⟨?_, by first | rfl | trivial⟩
  have := items_noise_start g 0
  unfold C15.items at this ⊢
  rw [List.filterMap_append]
  simp only [List.replicate_zero, List.append_nil] at this
  rw [this]

/-- start-free noise, then the first `k ≥ 8` bytes of a frame -/
theorem tailRes_cut (cap : Option Nat) (g m1 : List UInt8) (k : Nat) (hg : StartFree g)
    (h8 : 8 ≤ k) (hk : k < (frame m1).length) (hroom : NoOom cap ((frame m1).take k)) :
    TailRes cap (g ++ (frame m1).take k) (noiseItems g) ((frame m1).take k).length := by
  obtain ⟨c1, c2⟩ := cut_any cap m1 k hk hroom
  have hsplit := C08.take_frame_split m1 k h8
  unfold TailRes
  rw [hsplit, C08.noise_prefix cap g hg, ← hsplit, c1, List.drop_replicate]
  exact ⟨items_noise_start g _, c2⟩

/-- A stream that ends in an unfinished transmission: files (with start-free noise in between),
then start-free noise `g`, then the first `k` bytes of the frame of `m1`, cut anywhere after the
start sequence.  `n` calls of `next`: the files, `DiscardedBytes(|g|)` if `g ≠ []` (reported when
the start sequence of the unfinished transmission is complete), `IoErr(Eof, k)` for the unfinished
transmission itself, then `None` forever. -/
theorem reader_results_tail_cut (kind : SrcKind) (hk : kind = .mem ∨ kind = .io) (cap : Option Nat)
    (gs : List (List UInt8 × List UInt8))
    (hg : ∀ gp ∈ gs, StartFree gp.1 ∧ fitsCap cap gp.2.length)
    (g m1 : List UInt8) (k : Nat) (hgn : StartFree g) (h8 : 8 ≤ k) (hkl : k < (frame m1).length)
    (hroom : NoOom cap ((frame m1).take k)) (n : Nat) :
    ((Rdr.new kind cap ((stream gs (g ++ (frame m1).take k)).map Ev.byte)).calls
        (List.replicate n .next)).2 =
      padTo RItem.none
        (delivered gs ++ (if g = [] then [] else [RItem.decErr (.discarded g.length)]) ++
          [RItem.ioErr .eof k]) n := by
  have hal : ((frame m1).take k).length = k := by rw [List.length_take]; omega
  rw [reader_results_of_tail kind hk cap gs hg _ _ _ (tailRes_cut cap g m1 k hgn h8 hkl hroom), hal]
  congr 2
  · unfold noiseItems; split <;> rfl
  · unfold eofItems; rw [if_neg (by omega)]

/-- the same for any interleaving of `read` / `next` / `read_nb` / `next_nb` -/
theorem reader_results_calls_tail_cut (kind : SrcKind) (hk : kind = .mem ∨ kind = .io)
    (cap : Option Nat) (gs : List (List UInt8 × List UInt8))
    (hg : ∀ gp ∈ gs, StartFree gp.1 ∧ fitsCap cap gp.2.length)
    (g m1 : List UInt8) (k : Nat) (hgn : StartFree g) (h8 : 8 ≤ k) (hkl : k < (frame m1).length)
    (hroom : NoOom cap ((frame m1).take k)) (cs : List Rdr.Call) :
    ((Rdr.new kind cap ((stream gs (g ++ (frame m1).take k)).map Ev.byte)).calls cs).2 =
      List.zipWith view cs
        (padTo (RItem.ioErr .eof 0)
          (delivered gs ++ (if g = [] then [] else [RItem.decErr (.discarded g.length)]) ++
            [RItem.ioErr .eof k]) cs.length) := by
  have hal : ((frame m1).take k).length = k := by rw [List.length_take]; omega
  rw [reader_results_calls_of_tail kind hk cap gs hg _ _ _
    (tailRes_cut cap g m1 k hgn h8 hkl hroom), hal]
  congr 4
  unfold noiseItems; split <;> rfl

/-- the cut point is one where the decoder is in state `Normal` (the hypotheses `hstate`, `hroom` of
`C08.cut_then_frame_idle`) -/
theorem reader_results_tail_cut_normal (kind : SrcKind) (hk : kind = .mem ∨ kind = .io)
    (cap : Option Nat) (gs : List (List UInt8 × List UInt8))
    (hg : ∀ gp ∈ gs, StartFree gp.1 ∧ fitsCap cap gp.2.length)
    (g m1 : List UInt8) (k : Nat) (hgn : StartFree g)
    (hstate : (Dec.pushAll (Dec.fresh none) ((frame m1).take k)).1.st = .normal)
    (hroom : NoOom cap ((frame m1).take k)) (n : Nat) :
    ((Rdr.new kind cap ((stream gs (g ++ (frame m1).take k)).map Ev.byte)).calls
        (List.replicate n .next)).2 =
      padTo RItem.none
        (delivered gs ++ (if g = [] then [] else [RItem.decErr (.discarded g.length)]) ++
          [RItem.ioErr .eof ((frame m1).take k).length]) n := by
  obtain ⟨_, _, _, _, _, c6⟩ := Resync.cut_facts cap m1 k hstate hroom
  have hkl := Resync.lt_of_normal m1 k hstate
  have hal : ((frame m1).take k).length = k := by rw [List.length_take]; omega
  rw [hal]
  exact reader_results_tail_cut kind hk cap gs hg g m1 k hgn c6 hkl hroom n

/-- start-free noise `g`, then the first `k < 8` bytes of a frame: one `IoErr(Eof, |g| + k)`
(nothing if `g = []` and `k = 0`), as for any start-free tail -/
theorem reader_results_tail_partial_start (kind : SrcKind) (hk : kind = .mem ∨ kind = .io)
    (cap : Option Nat) (gs : List (List UInt8 × List UInt8))
    (hg : ∀ gp ∈ gs, StartFree gp.1 ∧ fitsCap cap gp.2.length)
    (g m1 : List UInt8) (k : Nat) (hgn : StartFree g) (h8 : k < 8) (n : Nat) :
    ((Rdr.new kind cap ((stream gs (g ++ (frame m1).take k)).map Ev.byte)).calls
        (List.replicate n .next)).2 =
      padTo RItem.none
        (delivered gs ++ (if g.length + k = 0 then [] else [RItem.ioErr .eof (g.length + k)])) n := by
  have hPl : (START.take k).length = k := by simp [START]; omega
  rw [C08.take_frame_le8 m1 (by omega), reader_results_of_tail kind hk cap gs hg _ [] _
    (tailRes_noise cap _ (C17.startFree_append_partial g hgn k h8)), List.map_nil, List.append_nil,
    List.length_append, hPl]
  rfl

/-- start-free noise `g`, a transmission cut off in state `Normal` after `k1` bytes (`a1`; e.g. just
the start sequence), then the first `k2 ≥ 8` bytes of another frame (`a2`).  Plan: `g ++ a1` by
`C08.noise_cut`; the start sequence of `a2` reports `a1` and leaves the post-START state
(`Resync.restart_started`), so `a2` is answered as by a new decoder (`Dec.sync_prefix`, `cut_any`). -/
theorem tailRes_cut_cut (cap : Option Nat) (g m1 m2 : List UInt8) (k1 k2 : Nat) (hg : StartFree g)
    (hstate : (Dec.pushAll (Dec.fresh none) ((frame m1).take k1)).1.st = .normal)
    (hroom1 : NoOom cap ((frame m1).take k1))
    (h8 : 8 ≤ k2) (hk2 : k2 < (frame m2).length) (hroom2 : NoOom cap ((frame m2).take k2)) :
    TailRes cap (g ++ (frame m1).take k1 ++ (frame m2).take k2)
      (noiseItems g ++ [Item.err (.discarded ((frame m1).take k1).length)])
      ((frame m2).take k2).length := by
  obtain ⟨n1, n2, n3, n4⟩ := C08.noise_cut cap g m1 k1 hg hstate hroom1
  obtain ⟨c1, c2⟩ := cut_any cap m2 k2 hk2 hroom2
  have hsplit := C08.take_frame_split m2 k2 h8
  have ha := Dec.pushAll_append (g ++ (frame m1).take k1) (Dec.fresh cap) START
  rw [Resync.restart_started n2, n1, n3, n4] at ha
  unfold TailRes
  rw [hsplit, ← List.append_assoc, Dec.sync_prefix ha, ← hsplit, c1, List.drop_replicate]
  refine ⟨?_, c2⟩
  have e1 := items_noise_start g (((frame m1).take k1).length - 8)
  have e2 := items_restart (.discarded ((frame m1).take k1).length) (((frame m2).take k2).length - 8)
  unfold C15.items at e1 e2 ⊢
  rw [List.append_assoc, List.filterMap_append, e1, e2]

/-- A stream that ends with a cut-off transmission followed by an unfinished one (for `k1 = 8` the
tail is `g ++ START ++ START ++ …`, the doubled start sequence): the files, `DiscardedBytes(|g|)` if
`g ≠ []`, `DiscardedBytes(|a1|)` for the cut-off transmission (reported when the second start
sequence is complete), `IoErr(Eof, k2)` for the unfinished one, then `None` forever. -/
theorem reader_results_tail_cut_cut (kind : SrcKind) (hk : kind = .mem ∨ kind = .io)
    (cap : Option Nat) (gs : List (List UInt8 × List UInt8))
    (hg : ∀ gp ∈ gs, StartFree gp.1 ∧ fitsCap cap gp.2.length)
    (g m1 m2 : List UInt8) (k1 k2 : Nat) (hgn : StartFree g)
    (hstate : (Dec.pushAll (Dec.fresh none) ((frame m1).take k1)).1.st = .normal)
    (hroom1 : NoOom cap ((frame m1).take k1))
    (h8 : 8 ≤ k2) (hk2 : k2 < (frame m2).length) (hroom2 : NoOom cap ((frame m2).take k2))
    (n : Nat) :
    ((Rdr.new kind cap ((stream gs (g ++ (frame m1).take k1 ++ (frame m2).take k2)).map
        Ev.byte)).calls (List.replicate n .next)).2 =
      padTo RItem.none
        (delivered gs ++ (if g = [] then [] else [RItem.decErr (.discarded g.length)]) ++
          [RItem.decErr (.discarded ((frame m1).take k1).length)] ++ [RItem.ioErr .eof k2]) n := by
  have hal : ((frame m2).take k2).length = k2 := by rw [List.length_take]; omega
  rw [reader_results_of_tail kind hk cap gs hg _ _ _
    (tailRes_cut_cut cap g m1 m2 k1 k2 hgn hstate hroom1 h8 hk2 hroom2), hal]
  congr 1
  unfold eofItems
  rw [if_neg (by omega), List.map_append]
  unfold noiseItems
  split <;> simp [Item.toR]

theorem reader_results_tail_start (kind : SrcKind) (hk : kind = .mem ∨ kind = .io)
    (cap : Option Nat) (gs : List (List UInt8 × List UInt8))
    (hg : ∀ gp ∈ gs, StartFree gp.1 ∧ fitsCap cap gp.2.length)
    (g r : List UInt8) (hgn : StartFree g) (n : Nat) :
    ((Rdr.new kind cap ((stream gs (g ++ START ++ r)).map Ev.byte)).calls
        (List.replicate n .next)).2 =
      padTo RItem.none
        (delivered gs ++ (if g = [] then [] else [RItem.decErr (.discarded g.length)]) ++
          (C15.items (Dec.pushAll (afterStart (Dec.fresh cap)) r).2).map Item.toR ++
          eofItems (Dec.pushAll (afterStart (Dec.fresh cap)) r).1.reset.2) n := by
  rw [reader_results_of_tail kind hk cap gs hg _ _ _ (tailRes_start cap g r hgn), List.map_append]
  congr 2
  simp only [List.append_assoc]
  congr 2
  unfold noiseItems; split <;> rfl

/-- one file, noise `1b`, then a transmission cut in the middle of its escape sequence (13 bytes):
not a `Normal` cut point, still covered -/
example : ((Rdr.new .io (some 4) ((stream [([0x00], [1, 2, 3, 4])]
      ([0x1b] ++ (frame [5, 6, 7, 8]).take 13)).map Ev.byte)).calls (List.replicate 5 .next)).2 =
    [.decErr (.discarded 1), .ok [1, 2, 3, 4], .decErr (.discarded 1), .ioErr .eof 13, .none] := by
  decide +kernel

example : NoOom (some 4) ((frame [5, 6, 7, 8]).take 13) := by decide +kernel
example : (Dec.pushAll (Dec.fresh none) ((frame [5, 6, 7, 8]).take 13)).1.st = .escChars 1 := by
  decide +kernel

/-- the cut inside the start sequence -/
example : ((Rdr.new .mem none ((stream [([], [1, 2])]
      ([0x1b, 0x00] ++ (frame [5]).take 6)).map Ev.byte)).calls (List.replicate 3 .next)).2 =
    [.ok [1, 2], .ioErr .eof 8, .none] := by decide +kernel

/-- the doubled start: `START ++ START ++ 05` -/
example : ((Rdr.new .mem none ((stream [([], [1, 2])]
      ([0xaa] ++ (frame [9]).take 8 ++ (frame [5]).take 9)).map Ev.byte)).calls
        (List.replicate 5 .next)).2 =
    [.ok [1, 2], .decErr (.discarded 1), .decErr (.discarded 8), .ioErr .eof 9, .none] := by
  decide +kernel

example : (frame [9]).take 8 = START := by decide +kernel

end Sml.C10
