import Sml.Spec.Tiling
/-
  `Dec.run` (histories of operations) and `Dec.pushAll` (byte strings) as list recursions: unfolding,
  concatenation, length, prefixes, single answers.  No invariant is involved.
-/
namespace Sml

theorem map_out_inj {l l' : List Out} (h : l.map OpOut.out = l'.map OpOut.out) : l = l' :=
  (List.map_inj_right fun _ _ => OpOut.out.inj).1 h

namespace Dec

theorem pushCount_cons (op : Op) (ops : List Op) :
    Spec.pushCount (op :: ops) = Spec.pushCount [op] + Spec.pushCount ops := by
  cases op <;> simp [Spec.pushCount] <;> omega

theorem run_nil (d : Dec) : d.run [] = (d, []) := rfl

theorem run_cons (d : Dec) (op : Op) (ops : List Op) :
    d.run (op :: ops) = (((d.step op).1.run ops).1, (d.step op).2 :: ((d.step op).1.run ops).2) :=
  rfl

theorem run_append (ops1 : List Op) : ∀ (d : Dec) (ops2 : List Op),
    d.run (ops1 ++ ops2) =
      (((d.run ops1).1.run ops2).1, (d.run ops1).2 ++ ((d.run ops1).1.run ops2).2) := by
  induction ops1 with
  | nil => intro d ops2; rfl
  | cons op ops ih =>
    intro d ops2
    rw [List.cons_append, run_cons, ih, run_cons]
    rfl

theorem run_snoc (d : Dec) (ops : List Op) (op : Op) :
    d.run (ops ++ [op]) =
      (((d.run ops).1.step op).1, (d.run ops).2 ++ [((d.run ops).1.step op).2]) := by
  rw [run_append]; rfl

theorem run_length (ops : List Op) : ∀ d : Dec, (d.run ops).2.length = ops.length := by
  induction ops with
  | nil => intro d; rfl
  | cons op ops ih => intro d; rw [run_cons]; simp [ih]

theorem pushAll_nil (d : Dec) : d.pushAll [] = (d, []) := rfl

/-- the cons equation of `pushAll` (the `R` carries no meaning) -/
theorem pushAll_consR (d : Dec) (b : UInt8) (bs : List UInt8) :
    Dec.pushAll d (b :: bs) =
      ((Dec.pushAll (d.push b).1 bs).1, (d.push b).2 :: (Dec.pushAll (d.push b).1 bs).2) := rfl

theorem pushAll_eq_run (s : List UInt8) : ∀ d : Dec,
    (d.pushAll s).1 = (d.run (s.map Op.push)).1 ∧
    (d.pushAll s).2.map OpOut.out = (d.run (s.map Op.push)).2 := by
  induction s with
  | nil => intro d; exact ⟨rfl, rfl⟩
  | cons b bs ih =>
    intro d
    rw [pushAll_consR, List.map_cons, run_cons]
    have := ih (d.push b).1
    exact ⟨this.1, by simp only [List.map_cons, this.2]; rfl⟩

/-- equal answers to the `push_byte` histories are equal answers to the byte strings -/
theorem pushAll_snd_eq_of_run {d d' : Dec} {s : List UInt8}
    (h : (d.run (s.map Op.push)).2 = (d'.run (s.map Op.push)).2) :
    (d.pushAll s).2 = (d'.pushAll s).2 :=
  map_out_inj (by rw [(pushAll_eq_run s d).2, (pushAll_eq_run s d').2]; exact h)

theorem pushAll_append (s1 : List UInt8) : ∀ (d : Dec) (s2 : List UInt8),
    d.pushAll (s1 ++ s2) =
      (((d.pushAll s1).1.pushAll s2).1, (d.pushAll s1).2 ++ ((d.pushAll s1).1.pushAll s2).2) := by
  induction s1 with
  | nil => intro d s2; rfl
  | cons b bs ih =>
    intro d s2
    rw [List.cons_append, pushAll_consR, ih, pushAll_consR]
    rfl

theorem pushAll_length (s : List UInt8) (d : Dec) : (d.pushAll s).2.length = s.length := by
  simpa [run_length] using congrArg List.length (pushAll_eq_run s d).2

theorem pushAll_take (xs : List UInt8) : ∀ (i : Nat) (d : Dec),
    (Dec.pushAll d (xs.take i)).2 = (Dec.pushAll d xs).2.take i := by
  induction xs with
  | nil => intro i d; simp [Dec.pushAll]
  | cons x xs ih =>
    intro i d
    cases i with
    | zero => simp [Dec.pushAll]
    | succ i => simp only [List.take_succ_cons, pushAll_consR, ih]

/-- Answer `i` is the answer to byte `i` from the state after `i` bytes.  The byte is given as
`s.take (i + 1) = s.take i ++ [x]` because the position statements (C02, C17) speak of prefixes. -/
theorem pushAll_getElem? (s : List UInt8) : ∀ (d : Dec) (i : Nat) (o : Out),
    (d.pushAll s).2[i]? = some o →
    ∃ x, s.take (i + 1) = s.take i ++ [x] ∧ i < s.length ∧
      o = ((d.pushAll (s.take i)).1.push x).2 := by
  induction s with
  | nil => intro d i o h; simp [pushAll_nil] at h
  | cons x xs ih =>
    intro d i o h
    rw [pushAll_consR] at h
    cases i with
    | zero =>
      simp only [List.getElem?_cons_zero, Option.some.injEq] at h
      exact ⟨x, rfl, by simp, h.symm⟩
    | succ i =>
      simp only [List.getElem?_cons_succ] at h
      obtain ⟨y, h1, h2, h3⟩ := ih _ i o h
      exact ⟨y, by simp [h1], by simp; omega, by rw [List.take_succ_cons, pushAll_consR]; exact h3⟩

theorem run_getElem? (ops : List Op) : ∀ (d : Dec) (i : Nat) (o : OpOut),
    (d.run ops).2[i]? = some o →
    ∃ op, ops.take (i + 1) = ops.take i ++ [op] ∧ o = ((d.run (ops.take i)).1.step op).2 := by
  induction ops with
  | nil => intro d i o h; simp [run_nil] at h
  | cons op ops ih =>
    intro d i o h
    rw [run_cons] at h
    cases i with
    | zero =>
      simp only [List.getElem?_cons_zero, Option.some.injEq] at h
      exact ⟨op, rfl, h.symm⟩
    | succ i =>
      simp only [List.getElem?_cons_succ] at h
      obtain ⟨op', h1, h2⟩ := ih _ i o h
      exact ⟨op', by simp [h1], by rw [List.take_succ_cons, run_cons]; exact h2⟩

end Dec
end Sml
