import Sml.Props.C16
import Sml.Props.C15
import Sml.Lemmas.StartFree
/-
  Property C16, continuation: "... and is immediately ready for the next frame" when the REST of
  the oversized frame is still fed to the decoder (the situation on a real line: the sender does not
  stop in the middle of its frame because the receiver ran out of memory).

  The remaining bytes `g = (frame p).drop (i + 1)` of the oversized frame are noise for the reset
  decoder.  If they are noise in the sense of C08 (`StartFree g`), a following frame `frame q` with
  `|q| ≤ N` gives exactly the answers of `C08.noise_then_frame`.  The hypothesis is needed (see the
  counterexample at the end: a payload that contains `1b1b1b1b 01010101` after the point of the
  error); `Lemmas/StartFree.lean` has sufficient conditions, e.g. that `p` contains no 0x1b.
-/
namespace Sml.C16

open Spec (frame)
open C07 (fitsCap)
open C08 (StartFree)

/-- The index `i` of `too_small` / `next_frame` is determined by its defining equation: it is the
position of the first answer other than `Ok(None)` in the answers to `frame p`. -/
theorem oom_index_unique (d : Dec) (s : List UInt8) (i j : Nat) (hi : i < s.length)
    (hj : j < s.length)
    (h1 : (Dec.pushAll d (s.take (i + 1))).2 = List.replicate i Out.none ++ [Out.err DecErr.oom])
    (h2 : (Dec.pushAll d (s.take (j + 1))).2 = List.replicate j Out.none ++ [Out.err DecErr.oom]) :
    i = j := by
  rw [Dec.pushAll_take] at h1 h2
  have key : ∀ a b : Nat, a < b → b < s.length →
      (Dec.pushAll d s).2.take (a + 1) = List.replicate a Out.none ++ [Out.err DecErr.oom] →
      (Dec.pushAll d s).2.take (b + 1) = List.replicate b Out.none ++ [Out.err DecErr.oom] →
      False := by
    intro a b hab hb ha hb'
    have e1 : ((Dec.pushAll d s).2.take (a + 1))[a]? = some (Out.err DecErr.oom) := by
      rw [ha, List.getElem?_append_right (by simp)]; simp
    have e2 : ((Dec.pushAll d s).2.take (b + 1))[a]? = some Out.none := by
      rw [hb', List.getElem?_append_left (by simpa using hab)]
      simp [hab]
    rw [List.getElem?_take_of_lt (by omega)] at e1 e2
    rw [e1] at e2
    cases e2
  rcases Nat.lt_trichotomy i j with h | h | h
  · exact (key i j h hj h1 h2).elim
  · exact h
  · exact (key j i h hi h2 h1).elim

/-- Capacity `N < |p|`, then a frame whose payload fits.  `i` is the index of the
`Err(OutOfMemory)` answer of `too_small` (first two conjuncts; unique by `oom_index_unique`).
If the rest `g = (frame p).drop (i + 1)` of the oversized frame is noise (`StartFree`), the
answers to `frame p ++ frame q` are: `i` times `Ok(None)`, `Err(OutOfMemory)`, then the answers of
`C08.noise_then_frame` for the noise `g` and the payload `q`; the decoder ends in state `Done`
holding exactly `q`. -/
theorem next_frame (p q : List UInt8) (N : Nat) (h : N < p.length) (hq : q.length ≤ N) :
    ∃ i, i < (frame p).length ∧
      (Dec.pushAll (Dec.fresh (some N)) ((frame p).take (i + 1))).2 =
        List.replicate i Out.none ++ [Out.err DecErr.oom] ∧
      (StartFree ((frame p).drop (i + 1)) →
        (Dec.pushAll (Dec.fresh (some N)) (frame p ++ frame q)).2 =
          (List.replicate i Out.none ++ [Out.err DecErr.oom]) ++
            (List.replicate (((frame p).drop (i + 1)).length + 7) Out.none ++
              [if (frame p).drop (i + 1) = [] then Out.none
                else Out.err (.discarded ((frame p).drop (i + 1)).length)] ++
              List.replicate ((frame q).length - 9) Out.none ++ [Out.msg q]) ∧
        (Dec.pushAll (Dec.fresh (some N)) (frame p ++ frame q)).1.st = .done ∧
        (Dec.pushAll (Dec.fresh (some N)) (frame p ++ frame q)).1.buf.data = q) := by
  obtain ⟨i, hi, h1, h2, h3, h4, h5, h6⟩ := too_small p N h
  refine ⟨i, hi, h1, fun hg => ?_⟩
  have hm : fitsCap (Dec.pushAll (Dec.fresh (some N)) ((frame p).take (i + 1))).1.buf.cap q.length := by
    rw [h6]; exact hq
  obtain ⟨g1, g2, g3⟩ := Resync.noise_frame (Dec.winv_of_isReset ⟨h2, h3, h4, h5⟩)
    (Dec.pushAll_inv _ (Dec.inv_fresh _)) ((frame p).drop (i + 1)) q hg hm
  have hsplit : frame p ++ frame q =
      (frame p).take (i + 1) ++ ((frame p).drop (i + 1) ++ frame q) := by
    rw [← List.append_assoc, List.take_append_drop]
  rw [hsplit, Dec.pushAll_append]
  simp only
  rw [h1, g1]
  exact ⟨rfl, g2, g3⟩

/-- the same with the number of remaining bytes written out: `|g| = |frame p| - (i + 1)`, and
`g = []` iff the error came at the last byte of the frame -/
theorem next_frame_len (p q : List UInt8) (N : Nat) (h : N < p.length) (hq : q.length ≤ N) :
    ∃ i, i < (frame p).length ∧
      (Dec.pushAll (Dec.fresh (some N)) ((frame p).take (i + 1))).2 =
        List.replicate i Out.none ++ [Out.err DecErr.oom] ∧
      (StartFree ((frame p).drop (i + 1)) →
        (Dec.pushAll (Dec.fresh (some N)) (frame p ++ frame q)).2 =
          List.replicate i Out.none ++ [Out.err DecErr.oom] ++
            List.replicate ((frame p).length - (i + 1) + 7) Out.none ++
            [if i + 1 = (frame p).length then Out.none
              else Out.err (.discarded ((frame p).length - (i + 1)))] ++
            List.replicate ((frame q).length - 9) Out.none ++ [Out.msg q]) := by
  obtain ⟨i, hi, h1, h2⟩ := next_frame p q N h hq
  refine ⟨i, hi, h1, fun hg => ?_⟩
  rw [(h2 hg).1, List.length_drop]
  have e : ((frame p).drop (i + 1) = []) ↔ (i + 1 = (frame p).length) := by
    rw [List.drop_eq_nil_iff]; omega
  simp only [e, List.append_assoc]

/-- The items a front-end reports (`decode`, `decode_streaming`: the non-`None` answers):
`OutOfMemory`, `DiscardedBytes(rest of the oversized frame)` (unless the error came at its last
byte), then the payload `q`; `finalize` adds nothing. -/
theorem next_frame_items (p q : List UInt8) (N : Nat) (h : N < p.length) (hq : q.length ≤ N) :
    ∃ i, i < (frame p).length ∧
      (Dec.pushAll (Dec.fresh (some N)) ((frame p).take (i + 1))).2 =
        List.replicate i Out.none ++ [Out.err DecErr.oom] ∧
      (StartFree ((frame p).drop (i + 1)) →
        C15.reference (some N) (frame p ++ frame q) =
          [Item.err .oom] ++
            (if i + 1 = (frame p).length then []
              else [Item.err (.discarded ((frame p).length - (i + 1)))]) ++
            [Item.ok q]) := by
  obtain ⟨i, hi, h1, h2⟩ := next_frame p q N h hq
  refine ⟨i, hi, h1, fun hg => ?_⟩
  obtain ⟨g1, g2, _⟩ := h2 hg
  have e : ((frame p).drop (i + 1) = []) ↔ (i + 1 = (frame p).length) := by
    rw [List.drop_eq_nil_iff]; omega
  rw [C15.reference_of_finalize_none (C15.finalize_of_done g2), g1, List.length_drop]
  simp only [C15.items, List.filterMap_append, Dec.filterMap_replicate_none, e, List.nil_append,
    List.append_nil]
  split <;> simp [Out.toItem?]

/-- `DecoderReader::next` over a slice / iterator / `io::Read` that delivers the oversized frame
and then the next frame, for any number `k` of calls: `Err(OutOfMemory)`, `DiscardedBytes(rest)`
(unless the error came at the last byte), `Ok(q)`, then `None` forever. -/
theorem next_frame_reader (kind : SrcKind) (hk : kind = .mem ∨ kind = .io)
    (p q : List UInt8) (N : Nat) (h : N < p.length) (hq : q.length ≤ N) :
    ∃ i, i < (frame p).length ∧
      (Dec.pushAll (Dec.fresh (some N)) ((frame p).take (i + 1))).2 =
        List.replicate i Out.none ++ [Out.err DecErr.oom] ∧
      (StartFree ((frame p).drop (i + 1)) → ∀ k,
        ((Rdr.new kind (some N) ((frame p ++ frame q).map Ev.byte)).calls
            (List.replicate k .next)).2 =
          padTo RItem.none
            ([RItem.decErr .oom] ++
              (if i + 1 = (frame p).length then []
                else [RItem.decErr (.discarded ((frame p).length - (i + 1)))]) ++
              [RItem.ok q]) k) := by
  obtain ⟨i, hi, h1, h2⟩ := next_frame p q N h hq
  obtain ⟨i', hi', h1', h3⟩ := next_frame_items p q N h hq
  have hii : i' = i := oom_index_unique _ _ _ _ hi' hi h1' h1
  subst hii
  refine ⟨i', hi, h1, fun hg k => ?_⟩
  obtain ⟨_, g2, _⟩ := h2 hg
  rw [C15.reader_eq_reference kind hk (C15.finalize_of_done g2), h3 hg]
  -- both sides are the same list, on the left under `List.map Item.toR`
  simp only [List.map_append, List.map_cons, List.map_nil, Item.toR, apply_ite (List.map Item.toR)]

/-- `next_frame` without side condition for payloads `p` that contain no 0x1b byte. -/
theorem next_frame_of_no_1b (p q : List UInt8) (N : Nat) (h : N < p.length) (hq : q.length ≤ N)
    (hp : ∀ b ∈ p, b ≠ 0x1b) :
    ∃ i, i < (frame p).length ∧
      (Dec.pushAll (Dec.fresh (some N)) ((frame p).take (i + 1))).2 =
        List.replicate i Out.none ++ [Out.err DecErr.oom] ∧
      (Dec.pushAll (Dec.fresh (some N)) (frame p ++ frame q)).2 =
        List.replicate i Out.none ++ [Out.err DecErr.oom] ++
          List.replicate ((frame p).length - (i + 1) + 7) Out.none ++
          [if i + 1 = (frame p).length then Out.none
            else Out.err (.discarded ((frame p).length - (i + 1)))] ++
          List.replicate ((frame q).length - 9) Out.none ++ [Out.msg q] := by
  obtain ⟨i, hi, h1, h2⟩ := next_frame_len p q N h hq
  exact ⟨i, hi, h1, h2 (startFree_rest_of_no_1b p hp (i + 1) (by omega))⟩

/-- `p = 01 02 03 04 05` in an `ArrayBuf<3>`: the error comes at the fourth payload byte (index
11 of 24), the remaining 12 bytes of the frame are noise ... -/
example : (Dec.pushAll (Dec.fresh (some 3)) ((frame [1, 2, 3, 4, 5]).take 12)).2 =
    List.replicate 11 Out.none ++ [Out.err DecErr.oom] := by decide +kernel

example : StartFree ((frame [1, 2, 3, 4, 5]).drop 12) := by decide +kernel

example : ∀ b ∈ ([1, 2, 3, 4, 5] : List UInt8), b ≠ 0x1b := by decide

/-- ... and the conclusion: `None` x 11, `OutOfMemory`, `None` x 19, `DiscardedBytes(12)` at the
last byte of the next start sequence, `None` x 11, the payload `09` -/
example : (Dec.pushAll (Dec.fresh (some 3)) (frame [1, 2, 3, 4, 5] ++ frame [9])).2 =
    List.replicate 11 Out.none ++ [Out.err DecErr.oom] ++ List.replicate 19 Out.none ++
      [Out.err (.discarded 12)] ++ List.replicate 11 Out.none ++ [Out.msg [9]] := by
  decide +kernel

example : ((Rdr.new .io (some 3) ((frame [1, 2, 3, 4, 5] ++ frame [9]).map Ev.byte)).calls
    (List.replicate 5 .next)).2 =
      [.decErr .oom, .decErr (.discarded 12), .ok [9], .none, .none] := by decide +kernel

/-- the error at the last byte of the frame (withheld zeros, see C16): no noise, no
`DiscardedBytes` -/
example : (Dec.pushAll (Dec.fresh (some 4)) (frame [0, 0, 0, 0, 0] ++ frame [9])).2 =
    List.replicate 23 Out.none ++ [Out.err DecErr.oom] ++ List.replicate 19 Out.none ++
      [Out.msg [9]] := by
  decide +kernel

/-- The hypothesis `StartFree` is needed.  `p = 01 02 1b1b1b1b 01010101` in an `ArrayBuf<1>`: the
error comes at the second payload byte (index 9); the rest of the frame contains
`1b1b1b1b 1b1b1b1b 01010101`, i.e. a start sequence, so the decoder begins a transmission there
(reporting 4 discarded bytes) which ends with a checksum error at the end of the oversized frame.
The next frame is still delivered (the checksum error is a boundary), but the answers are not those
of `next_frame`. -/
example : (Dec.pushAll (Dec.fresh (some 1))
      ((frame [1, 2, 0x1b, 0x1b, 0x1b, 0x1b, 1, 1, 1, 1]).take 10)).2 =
    List.replicate 9 Out.none ++ [Out.err DecErr.oom] := by decide +kernel

example : ¬ StartFree ((frame [1, 2, 0x1b, 0x1b, 0x1b, 0x1b, 1, 1, 1, 1]).drop 10) := by
  decide +kernel

example : (Dec.pushAll (Dec.fresh (some 1))
      (frame [1, 2, 0x1b, 0x1b, 0x1b, 0x1b, 1, 1, 1, 1] ++ frame [9])).2.filterMap Out.toItem? =
    [Item.err .oom, Item.err (.discarded 4), Item.err (.invalidMsg 46494 58810 true 2 false),
      Item.ok [9]] := by decide +kernel

end Sml.C16
