import Sml.Props.C04
/-
  Property C04, streaming parser: how much of what the streaming parser has EMITTED is verified?

  The streaming parser (src/parser/streaming.rs) emits the events of a message - `MessageStart`,
  the `ListEntry`s, `GetListResponseEnd` - BEFORE it has read that message's checksum and end
  marker; the checksum is only compared when the NEXT item is requested.  So, unlike the
  allocating parser (`C04.sound`: data is returned only for inputs in the grammar), a consumer
  of the event stream sees data of a message that may later turn out to be corrupt.

  The unverified message of `streaming_unverified_bound` (`extra`): its events were either all
  emitted before its trailer failed - then it is `extra` - or the error came earlier and only some
  of them were emitted - then `reassemblePrefix` drops them and `extra = []`.

  CONSEQUENCE FOR USERS of the streaming parser: events are PROVISIONAL.  A consumer must treat
  the events it has received as unverified until the iteration has ended (`None`) without
  yielding an error item; only then does `streaming_verified_when_complete` apply.  If it ends
  with an error item, all messages but the last one seen are verified
  (`streaming_unverified_bound`), the last one need not be: its checksum and end marker are read only
  when the item AFTER its last event is requested.

  All statements hold for every input (no length bound).
-/
namespace Sml.C04
open Sml Sml.Spec

theorem completed_enc (fuel : Nat) (i : Bytes) (hi : i.length ≤ fuel) :
    ∃ pre rest, i = pre ++ rest ∧ EncSeq EncMessage (completedMessages fuel i) pre ∧
      ∀ e, parseMessages fuel i = .error e → parseMessage rest = .error e := by
  refine parseMessages_induction (P := fun i res cm => ∃ pre rest, i = pre ++ rest ∧
      EncSeq EncMessage cm pre ∧ ∀ e, res = .error e → parseMessage rest = .error e)
    ⟨[], [], rfl, .nil, nofun⟩
    (fun b i e0 hp => ⟨[], b :: i, rfl, .nil, fun e h => by rw [hp, Except.error.inj h]⟩)
    (fun b i m r res cm hp ih => ?_) fuel i hi
  obtain ⟨enc, he, hm⟩ := Gram.parses_message.sound _ _ _ hp
  obtain ⟨pre', rest', hr, hseq, herr⟩ := ih
  refine ⟨enc ++ pre', rest', by rw [he, hr, List.append_assoc], .cons hm hseq, fun e h => ?_⟩
  rcases res with e' | ms <;> cases h
  exact herr _ rfl

/-- the events seen before an error item hold the messages verified so far plus at most one
    unverified message; the error is the error of the message that follows the verified prefix -/
theorem streaming_unverified_bound_at (x : Bytes) (evs : List ParseEvent) (e : PErr)
    (h : C09.events x = evs.map SParser.SItem.ev ++ [SParser.SItem.err e]) :
    ∃ (ms extra : List Message) (pre rest : Bytes),
      reassemblePrefix evs = some (ms ++ extra) ∧ extra.length ≤ 1 ∧
      x = pre ++ rest ∧ EncFile ⟨ms⟩ pre ∧ parseMessage rest = .error e := by
  have hp : parseFile x = .error e := (C09.agree_err x e).2 ⟨evs, h⟩
  obtain ⟨evs', extra, he', hx, hre⟩ := C09.error_prefix x e hp
  have hevs : evs = evs' := (map_ev_err_inj _ _ _ _ (h.symm.trans he')).1
  subst hevs
  obtain ⟨pre, rest, hsplit, hseq, herr⟩ := completed_enc x.length x (Nat.le_refl _)
  exact ⟨completedMessages x.length x, extra, pre, rest, hre, hx, hsplit, hseq,
    herr e (parseFile_error.1 hp)⟩

/-- EXACT BOUND on unverified data: all but possibly the last message seen in the events before
    an error item are fully verified messages of a prefix of the input -/
theorem streaming_unverified_bound (x : Bytes) (evs : List ParseEvent) (e : PErr)
    (h : C09.events x = evs.map SParser.SItem.ev ++ [SParser.SItem.err e]) :
    ∃ (ms extra : List Message) (pre : Bytes),
      reassemblePrefix evs = some (ms ++ extra) ∧ extra.length ≤ 1 ∧ pre <+: x ∧
      EncFile ⟨ms⟩ pre := by
  obtain ⟨ms, extra, pre, rest, h1, h2, h3, h4, _⟩ := streaming_unverified_bound_at x evs e h
  exact ⟨ms, extra, pre, h1, h2, ⟨rest, h3.symm⟩, h4⟩

/-- if the iteration ends without an error item, everything that was emitted is verified: the
    events reassemble (completely, and also as a prefix) to messages `ms`, and the whole input is
    an encoding of the file `ms` (`C04.sound_streaming`) -/
theorem streaming_verified_when_complete (x : Bytes) (evs : List ParseEvent)
    (h : C09.events x = evs.map SParser.SItem.ev) :
    ∃ ms : List Message, reassemble evs = some ms ∧ reassemblePrefix evs = some ms ∧
      EncFile ⟨ms⟩ x := by
  rw [C09.events_eq_run] at h
  rcases file_cases x with ⟨F, evs', _, hr, hre⟩ | ⟨e, evs', _, _, hr, _, _⟩
  · have hevs : evs = evs' := (List.map_inj_right fun _ _ => SParser.SItem.ev.inj).1 (h.symm.trans hr)
    subst hevs
    refine ⟨F.messages, hre true, hre false, ?_⟩
    exact sound_streaming x evs F.messages (by rw [C09.events_eq_run]; exact h) (hre true)
  · exact absurd (h.symm.trans hr) (map_ev_ne_err _ _ _)

/-! the bound `extra.length ≤ 1` is attained:

  input = a valid close response followed by a list response with a corrupted checksum: the
  iteration yields 5 events and then `Err(CrcMismatch)`; the events reassemble to TWO messages,
  only the first of which is verified -/

def badInput : Bytes := C09.goodClose ++ C09.badCrcList

/-- the events before the error item -/
def badEvents : List ParseEvent :=
  (C09.events badInput).filterMap fun | .ev e => some e | .err _ => Option.none

theorem badInput_events :
    C09.events badInput = badEvents.map SParser.SItem.ev ++ [SParser.SItem.err .crcMismatch] := by
  decide +kernel

example : badEvents.length = 5 := by decide +kernel
example : (reassemblePrefix badEvents).map List.length = some 2 := by decide +kernel
example : (completedMessages badInput.length badInput).length = 1 := by decide +kernel
-- the theorem applied: two messages seen, `ms` = the one verified message, `extra` = the other
example : ∃ (ms extra : List Message) (pre : Bytes),
    reassemblePrefix badEvents = some (ms ++ extra) ∧ extra.length ≤ 1 ∧ pre <+: badInput ∧
    EncFile ⟨ms⟩ pre := streaming_unverified_bound _ _ _ badInput_events
-- an error-free run: everything emitted is verified
def goodEvents : List ParseEvent :=
  (C09.events (C09.goodList ++ C09.goodClose)).filterMap fun | .ev e => some e | .err _ => Option.none
example : ∃ ms, reassemble goodEvents = some ms ∧ reassemblePrefix goodEvents = some ms ∧
    EncFile ⟨ms⟩ (C09.goodList ++ C09.goodClose) :=
  streaming_verified_when_complete _ _ (by decide +kernel)

end Sml.C04
