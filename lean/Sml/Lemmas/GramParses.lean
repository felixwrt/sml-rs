import Sml.Spec.Grammar
import Sml.Props.C12
import Sml.Lemmas.ParserBasic
/-
  Grammar ↔ parser correspondence: the notion `Parses p E` ("parser `p` recognises exactly the
  relation `E`, prefix-closed"), its combinators, and the primitives (type-length field, octet
  string, numbers).
-/
namespace Sml.Gram
open Sml Sml.Spec

/-- `p` recognises exactly the relation `E`, whatever follows: every encoding `e` of `v`, followed
    by any `rest`, is parsed as `v` leaving `rest` (completeness); and whenever `p` succeeds, the
    bytes it consumed are an encoding of the value it returns (soundness) -/
structure Parses {α : Type} (p : Bytes → PRes α) (E : α → Bytes → Prop) : Prop where
  complete : ∀ v e rest, E v e → p (e ++ rest) = .ok (v, rest)
  sound : ∀ i v r, p i = .ok (v, r) → ∃ e, i = e ++ r ∧ E v e

theorem Parses.nonempty {α : Type} {p : Bytes → PRes α} {E : α → Bytes → Prop}
    (hp : Parses p E) (hg : Good p) {v : α} {e : Bytes} (h : E v e) : e ≠ [] := by
  intro he
  subst he
  have := (hg.ok (hp.complete v [] [] h)).length_le
  simp at this

theorem Parses.congr {α : Type} {p : Bytes → PRes α} {E E' : α → Bytes → Prop}
    (hp : Parses p E) (h : ∀ v e, E v e ↔ E' v e) : Parses p E' :=
  ⟨fun v e rest he => hp.complete v e rest ((h v e).2 he),
   fun i v r hi => by
     obtain ⟨e, h1, h2⟩ := hp.sound i v r hi
     exact ⟨e, h1, (h v e).1 h2⟩⟩

theorem parses_tlf : Parses parseTlf EncTlf where
  complete t e rest h := by
    obtain ⟨e', he, _, _, hr⟩ := C12.parseTlf_frame ((C12.encTlf_iff t e).1 h)
    rw [List.append_nil] at he
    exact he ▸ hr rest
  sound i t r h := by
    obtain ⟨e, he, _, _, hr⟩ := C12.parseTlf_frame h
    exact ⟨e, he, (C12.encTlf_iff t e).2 (List.append_nil e ▸ hr [])⟩

theorem encTlf_nonempty {t : Tlf} {e : Bytes} (h : EncTlf t e) : e ≠ [] := by
  rintro rfl
  exact nomatch (C12.encTlf_iff t []).1 h

theorem parses_fixed {α : Type} {q : Bytes → PRes α} {n : Nat} {f : Bytes → α}
    (hq : ∀ i, q i = if i.length < n then .error .unexpectedEOF
      else .ok (f (i.take n), i.drop n)) :
    Parses q (fun v body => body.length = n ∧ v = f body) where
  complete v e rest h := by
    obtain ⟨hl, rfl⟩ := h
    rw [hq, if_neg (by simp; omega), List.take_left' hl, List.drop_left' hl]
  sound i v r h := by
    rw [hq] at h
    split at h
    · cases h
    · rename_i hl
      simp only [Except.ok.injEq, Prod.mk.injEq] at h
      obtain ⟨rfl, rfl⟩ := h
      exact ⟨i.take n, (List.take_append_drop n i).symm, by simp; omega, rfl⟩

theorem parses_mapRes {α β : Type} {p : Bytes → PRes α} {E : α → Bytes → Prop} (f : α → β)
    (hp : Parses p E) : Parses (fun i => mapRes f (p i)) (fun w e => ∃ v, w = f v ∧ E v e) where
  complete w e rest h := by
    obtain ⟨v, rfl, hv⟩ := h
    simp only [hp.complete v e rest hv, mapRes]
  sound i w r h := by
    cases hpi : p i with
    | error err => simp [hpi, mapRes] at h
    | ok x =>
      obtain ⟨v, r'⟩ := x
      simp only [hpi, mapRes, Except.ok.injEq, Prod.mk.injEq] at h
      obtain ⟨rfl, rfl⟩ := h
      obtain ⟨e, he, hv⟩ := hp.sound i v r' hpi
      exact ⟨e, he, v, rfl, hv⟩

theorem parses_fail {α : Type} {p : Bytes → PRes α} {err : PErr} (h : ∀ i, p i = .error err) :
    Parses p (fun _ _ => False) where
  complete v e rest hf := hf.elim
  sound i v r hi := by rw [h] at hi; cases hi

theorem Parses.of_cond {α : Type} {q : Bytes → PRes α} {E : α → Bytes → Prop} (c : Prop)
    [Decidable c] {err : PErr} (hp : c → Parses q E) (hn : ¬ c → ∀ i, q i = .error err) :
    Parses q (fun v bs => c ∧ E v bs) := by
  by_cases hc : c
  · exact (hp hc).congr fun v e => by simp only [hc, true_and]
  · exact (parses_fail (hn hc)).congr fun v e => ⟨False.elim, fun h => hc h.1⟩

/-! The record parsers of Model/Parser.lean are chains of
  `match p input with | .error e => .error e | .ok (a, input) => …`; `Parses.bind` says what such a
  chain recognises, so soundness and completeness of a record come from one term.  A chain unifies
  with a model parser only under `set_option smartUnfolding false` (the matcher trap described at
  `Adv.bind` in ParserBasic.lean). -/

theorem Parses.bind {α β : Type} {p : Bytes → PRes α} {f : α → Bytes → PRes β}
    {E : α → Bytes → Prop} {F : α → β → Bytes → Prop}
    (hp : Parses p E) (hf : ∀ a, Parses (f a) (F a)) :
    Parses (fun i => match p i with | .error e => .error e | .ok (a, i) => f a i)
      (fun b bs => ∃ a e₁ e₂, bs = e₁ ++ e₂ ∧ E a e₁ ∧ F a b e₂) where
  complete b bs rest h := by
    obtain ⟨a, e₁, e₂, rfl, h₁, h₂⟩ := h
    show (match p (e₁ ++ e₂ ++ rest) with
      | .error e => .error e | .ok (a, i) => f a i : PRes β) = _
    rw [List.append_assoc, hp.complete a e₁ _ h₁]
    exact (hf a).complete b e₂ rest h₂
  sound i b r h := by
    replace h : (match p i with
      | .error e => .error e | .ok (a, i) => f a i : PRes β) = .ok (b, r) := h
    split at h
    · cases h
    · rename_i a i' heq
      obtain ⟨e₁, rfl, h₁⟩ := hp.sound _ _ _ heq
      obtain ⟨e₂, rfl, h₂⟩ := (hf a).sound _ _ _ h
      exact ⟨e₁ ++ e₂, by simp, a, e₁, e₂, rfl, h₁, h₂⟩

theorem Parses.pure {β : Type} (b : β) :
    Parses (fun i => .ok (b, i)) (fun b' bs => b' = b ∧ bs = []) where
  complete b' bs rest h := by obtain ⟨rfl, rfl⟩ := h; rfl
  sound i b' r h := by
    simp only [Except.ok.injEq, Prod.mk.injEq] at h
    obtain ⟨rfl, rfl⟩ := h
    exact ⟨[], rfl, rfl, rfl⟩

theorem Parses.ite {α : Type} {p q : Bytes → PRes α} {E F : α → Bytes → Prop} (c : Prop)
    [Decidable c] (hp : c → Parses p E) (hq : ¬ c → Parses q F) :
    Parses (fun i => if c then p i else q i) (fun v bs => (c ∧ E v bs) ∨ (¬ c ∧ F v bs)) := by
  by_cases hc : c
  · simp only [if_pos hc]
    exact (hp hc).congr fun v bs => ⟨fun h => Or.inl ⟨hc, h⟩, fun h => h.elim (·.2) (absurd hc ·.1)⟩
  · simp only [if_neg hc]
    exact (hq hc).congr fun v bs => ⟨fun h => Or.inr ⟨hc, h⟩, fun h => h.elim (absurd ·.1 hc) (·.2)⟩

theorem Parses.guard {α : Type} {p : Bytes → PRes α} {E : α → Bytes → Prop} (c : Prop)
    [Decidable c] (err : PErr) (hp : Parses p E) :
    Parses (fun i => if c then p i else .error err) (fun v bs => c ∧ E v bs) :=
  Parses.of_cond c (fun hc => by simpa only [if_pos hc] using hp) fun hc _ => if_neg hc

set_option smartUnfolding false in
theorem parses_viaTlf {α : Type} {check : Tlf → Bool} {withTlf : Bytes → Tlf → PRes α}
    {B : Tlf → α → Bytes → Prop} {E : α → Bytes → Prop}
    (hB : ∀ t, check t = true → Parses (fun i => withTlf i t) (B t))
    (hE1 : ∀ v bs, E v bs →
      ∃ t tl body, bs = tl ++ body ∧ EncTlf t tl ∧ check t = true ∧ B t v body)
    (hE2 : ∀ v t tl body, EncTlf t tl → check t = true → B t v body → E v (tl ++ body)) :
    Parses (parseViaTlf check withTlf) E :=
  (parses_tlf.bind fun t => Parses.ite ((!check t) = true) (fun _ => parses_fail fun _ => rfl)
    fun h => hB t (by simpa using h) :
    Parses (fun i => match parseTlf i with
      | .error e => .error e
      | .ok (t, i) => if (!check t) = true then .error .tlfMismatch else withTlf i t) _).congr
  fun v bs => by
    constructor
    · rintro ⟨t, tl, body, rfl, ht, ⟨_, hf⟩ | ⟨hc, hb⟩⟩
      · exact hf.elim
      · exact hE2 v t tl body ht (by simpa using hc) hb
    · intro h
      obtain ⟨t, tl, body, rfl, ht, hc, hb⟩ := hE1 v bs h
      exact ⟨t, tl, body, rfl, ht, .inr ⟨by simp [hc], hb⟩⟩

/-- the `01` marker decides: an encoding of a present element is non-empty (`Good p`) and by
    `EncOpt` does not start with `01` -/
theorem parses_opt {α : Type} {p : Bytes → PRes α} {E : α → Bytes → Prop}
    (hp : Parses p E) (hg : Good p) : Parses (parseOpt p) (EncOpt E) where
  complete v e rest h := by
    cases v with
    | none => cases h; rfl
    | some v =>
      obtain ⟨hv, hh⟩ := h
      cases e with
      | nil => exact absurd rfl (hp.nonempty hg hv)
      | cons b e =>
        have hc := hp.complete v (b :: e) rest hv
        unfold parseOpt
        split
        · rename_i heq
          exact absurd (by rw [(List.cons.inj heq).1]; rfl) hh
        · rw [hc]
  sound i v r h := by
    unfold parseOpt at h
    split at h
    · cases h
      exact ⟨[0x01], rfl, rfl⟩
    · rename_i hne
      split at h
      · cases h
      · rename_i x r' heq
        cases h
        obtain ⟨e, rfl, hv⟩ := hp.sound _ _ _ heq
        refine ⟨e, rfl, hv, ?_⟩
        cases e with
        | nil => exact absurd rfl (hp.nonempty hg hv)
        | cons b e => exact fun hb => hne _ (by rw [(Option.some.inj hb : b = 0x01)]; rfl)

theorem parses_seq_nonempty {α : Type} {E : α → Bytes → Prop} (hne : ∀ v e, E v e → e ≠ [])
    {xs : List α} {bs : Bytes} (h : EncSeq E xs bs) : xs = [] ↔ bs = [] := by
  cases h with
  | nil => simp
  | cons hx hxs =>
    have := hne _ _ hx
    simp [this]

theorem twos_eq (bs : Bytes) : Spec.twos bs = C12.twos bs := by
  cases bs with
  | nil => simp [Spec.twos, C12.twos, beNat]
  | cons b bs => simp [Spec.twos, C12.twos]

theorem parses_octet : Parses parseOctet EncOctet := by
  unfold parseOctet
  refine parses_viaTlf (B := fun t v body => body.length = t.len ∧ v = body)
    (fun t _ => parses_fixed (f := id) (fun i => C12.octet_exact i t)) ?_ ?_
  · rintro v bs ⟨tl, rfl, ht⟩
    exact ⟨_, tl, v, rfl, ht, rfl, rfl, rfl⟩
  · rintro v ⟨ty, len⟩ tl body ht hc ⟨hl, rfl⟩
    simp only [octetCheck, decide_eq_true_eq] at hc hl
    subst hc hl
    exact ⟨tl, rfl, ht⟩

/-- `parseInt`, signed and unsigned at once: the type in the field and the reading of the data
    bytes depend on `signed`, nothing else does -/
theorem parses_int (signed : Bool) (size : Nat) :
    Parses (parseInt signed size) (fun v bs => ∃ tl data, bs = tl ++ data ∧
      EncTlf ⟨if signed then .integer else .unsigned, data.length⟩ tl ∧
      1 ≤ data.length ∧ data.length ≤ size ∧
      v = if signed then Spec.twos data else (beNat data : Int)) := by
  unfold parseInt
  refine parses_viaTlf (B := fun t v body => body.length = t.len ∧
      v = if signed then Spec.twos body else (beNat body : Int)) (fun t hc => ?_) ?_ ?_
  · refine (parses_fixed (n := t.len) (f := fun b => if signed then C12.twos b else C12.plain b)
      (fun i => C12.parseNum_exact signed size t i hc)).congr fun v e => ?_
    simp only [twos_eq, C12.plain]
  · rintro v bs ⟨tl, data, rfl, ht, h1, h2, rfl⟩
    exact ⟨_, tl, data, rfl, ht, (C12.numCheck_iff _ _ _).2 ⟨rfl, h1, h2⟩, rfl, rfl⟩
  · rintro v ⟨ty, len⟩ tl body ht hc ⟨hl, hv⟩
    obtain ⟨h0, h1, h2⟩ := (C12.numCheck_iff _ _ _).1 hc
    simp only at h0 h1 h2 hl
    subst h0 hl
    exact ⟨tl, body, rfl, ht, h1, h2, hv⟩

theorem parses_unsigned (size : Nat) : Parses (parseInt false size) (EncUnsigned size) :=
  parses_int false size

theorem parses_signed (size : Nat) : Parses (parseInt true size) (EncSigned size) :=
  parses_int true size

end Sml.Gram
