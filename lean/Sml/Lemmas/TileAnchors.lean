import Sml.Props.C17
/-
  Property C17, anchored to the bytes.  The walker `Spec.tileFrom` of C17 only looks at the answers
  and at positions; here every tile is tied to the bytes it covers: a discarded tile is noise in
  the sense of C08 or an aborted transmission, a rejected tile begins with a start sequence, a
  delivered tile is `frame m`.

  Method: answer number `i` describes the window `w` that ends with byte `i` and begins at the
  walker's boundary (`Dec.wrep_at`): `s = pre ++ w ++ rest` with `|pre| = b`; `report` and
  `tileOk_at` read the two presentations off this splitting.
-/
namespace Sml.C17

open Spec (frame tileStep tileFrom)
open C08 (StartFree)

/-- what the answer `o` to the last byte of `w` says about the bytes, `b` = boundary before -/
def Rep (w : List UInt8) (b : Nat) : Out → Prop
  | .err (.discarded n) => START <:+ w ∧ 8 + b ≤ w.length ∧ n = w.length - 8 - b ∧ 0 < n ∧
      (StartFree ((w.drop b).take n) ∨ START <+: (w.drop b).take n)
  | .err _ => START <+: w.drop b
  | .msg m => w.drop b = frame m
  | _ => True

/-- The report about the bytes for answer number `i` of a stream, `b` = the boundary the walker
has reached before position `i`. -/
theorem report (cap : Option Nat) (s : List UInt8) (i : Nat) (o : Out) (b : Nat)
    (ho : (Dec.pushAll (Dec.fresh cap) s).2[i]? = some o)
    (hb : tileFrom 0 0 ((Dec.pushAll (Dec.fresh cap) s).2.take i) = some b) :
    Rep (s.take (i + 1)) b o := by
  obtain ⟨pre, w, hs, _, hr, hb'⟩ := Dec.wrep_at cap s i o ho
  obtain rfl : b = pre.length := Option.some.inj (hb.symm.trans hb')
  have hdrop : (s.take (i + 1)).drop pre.length = w := by rw [hs, List.drop_left]
  cases o with
  | msg m => exact hdrop.trans hr
  | err e =>
    cases e with
    | discarded n =>
      obtain ⟨tile, h1, h2, h3, h4⟩ := hr
      have hl : (s.take (i + 1)).length = pre.length + (n + 8) := by
        rw [hs, h1, List.length_append, List.length_append, h2]; rfl
      refine ⟨⟨pre ++ tile, by rw [hs, h1, List.append_assoc]⟩, by omega, by omega, h3, ?_⟩
      rw [hdrop, h1, ← h2, List.take_left]
      exact h4
    | _ => show START <+: _; rw [hdrop]; exact hr
  | _ => trivial

/-- where the tile reported by answer `o` to the byte at position `p - 1` ends: a discarded-bytes
report ends before the start sequence that triggered it -/
def tileEndOf (p : Nat) : Out → Nat
  | .err (.discarded _) => p - 8
  | _ => p

/-- the tiles `(start, end, report)` the answers cut the stream into; `b` = boundary, `i` =
position (as in `Spec.tileFrom`) -/
def tilesFrom (b i : Nat) : List Out → List (Nat × Nat × Out)
  | [] => []
  | .none :: os => tilesFrom b (i + 1) os
  | o :: os => (b, tileEndOf (i + 1) o, o) :: tilesFrom (tileEndOf (i + 1) o) (i + 1) os

/-- consecutive tiles: the first begins at `b`, each begins where its predecessor ends, the last
ends at `e` -/
def Contig (b e : Nat) : List (Nat × Nat × Out) → Prop
  | [] => b = e
  | (lo, hi, _) :: ts => lo = b ∧ Contig hi e ts

theorem tileStep_eq {b i : Nat} {o : Out} {b' : Nat} (h : tileStep b i o = some b')
    (ho : o ≠ .none) : b' = tileEndOf (i + 1) o := by
  cases o with
  | none => exact absurd rfl ho
  | msg m => simp only [tileStep, Option.some.injEq] at h; exact h.symm
  | panic s => simp [tileStep] at h
  | err e =>
    cases e with
    | discarded n =>
      simp only [tileStep] at h
      split at h
      · simp only [Option.some.injEq] at h; exact h.symm
      · cases h
    | _ => simp only [tileStep, Option.some.injEq] at h; exact h.symm

/-- one answer the walker accepts: no tile for `Ok(None)`, otherwise the tile `[b, b')` -/
theorem tilesFrom_cons {b i b' : Nat} {o : Out} (hs : tileStep b i o = some b') (os : List Out) :
    tilesFrom b i (o :: os) =
      (if o = .none then [] else [(b, b', o)]) ++ tilesFrom b' (i + 1) os := by
  by_cases ho : o = .none
  · subst ho
    simp only [tileStep, Option.some.injEq] at hs
    subst hs
    rfl
  · rw [if_neg ho, tileStep_eq hs ho]
    cases o <;> first | exact absurd rfl ho | rfl

theorem tiles_contig (outs : List Out) : ∀ (b i bf : Nat), tileFrom b i outs = some bf →
    Contig b bf (tilesFrom b i outs) := by
  induction outs with
  | nil => intro b i bf h; simp only [tileFrom, Option.some.injEq] at h; exact h
  | cons o os ih =>
    intro b i bf h
    simp only [tileFrom] at h
    cases hs : tileStep b i o with
    | none => rw [hs] at h; cases h
    | some b' =>
      rw [hs] at h
      rw [tilesFrom_cons hs]
      split
      · next ho => subst ho; cases hs; exact ih _ _ _ h
      · exact ⟨rfl, ih _ _ _ h⟩

theorem mem_tilesFrom (outs : List Out) : ∀ (b i lo hi : Nat) (o : Out),
    (lo, hi, o) ∈ tilesFrom b i outs → (tileFrom b i outs).isSome →
    ∃ j, outs[j]? = some o ∧ tileFrom b i (outs.take j) = some lo ∧
      hi = tileEndOf (i + j + 1) o ∧ o ≠ .none := by
  induction outs with
  | nil => intro b i lo hi o h _; simp [tilesFrom] at h
  | cons o0 os ih =>
    intro b i lo hi o h hsome
    simp only [tileFrom] at hsome
    cases hs : tileStep b i o0 with
    | none => rw [hs] at hsome; cases hsome
    | some b' =>
      rw [hs] at hsome
      rw [tilesFrom_cons hs, List.mem_append] at h
      rcases h with h | h
      · split at h
        · cases h
        · next ho =>
          simp only [List.mem_singleton, Prod.mk.injEq] at h
          obtain ⟨rfl, rfl, rfl⟩ := h
          exact ⟨0, rfl, rfl, tileStep_eq hs ho, ho⟩
      · obtain ⟨j, g1, g2, g3, g4⟩ := ih _ _ _ _ _ h hsome
        refine ⟨j + 1, by simpa using g1, ?_, by rw [g3]; congr 1; omega, g4⟩
        simp only [List.take_succ_cons, tileFrom, hs]
        exact g2

/-- what a tile `s[lo .. hi)` with report `o` looks like -/
def TileOk (s : List UInt8) : Nat × Nat × Out → Prop
  | (lo, hi, o) =>
    lo ≤ hi ∧ hi ≤ s.length ∧
      match o with
      | .msg m => (s.drop lo).take (hi - lo) = frame m
      | .err (.discarded n) =>
        n = hi - lo ∧ 0 < n ∧ (s.drop hi).take 8 = START ∧
          ((StartFree ((s.drop lo).take (hi - lo)) ∧ ¬ START <+: (s.drop lo).take (hi - lo)) ∨
            (START <+: (s.drop lo).take (hi - lo) ∧ ¬ StartFree ((s.drop lo).take (hi - lo))))
      | .err _ => START <+: (s.drop lo).take (hi - lo)
      | _ => False

/-- Plan: `Dec.wrep_at` splits the stream as `s = pre ++ w ++ rest` with `|pre| = b` and says what
the answer means for the window `w` (`WRep`); each kind of answer then only cuts its tile out of
`w` by `take`/`drop` arithmetic (`hdrop`). -/
theorem tileOk_at (cap : Option Nat) (s : List UInt8) (i b : Nat) (o : Out)
    (ho : (Dec.pushAll (Dec.fresh cap) s).2[i]? = some o)
    (hb : tileFrom 0 0 ((Dec.pushAll (Dec.fresh cap) s).2.take i) = some b) (hn : o ≠ .none) :
    TileOk s (b, tileEndOf (i + 1) o, o) := by
  obtain ⟨pre, w, hs, hi, hr, hb'⟩ := Dec.wrep_at cap s i o ho
  obtain rfl : b = pre.length := Option.some.inj (hb.symm.trans hb')
  -- `s = pre ++ w ++ rest`, the tile is cut out of `w`
  have hlen : pre.length + w.length = i + 1 := by
    have := congrArg List.length hs
    rw [List.length_take, List.length_append] at this
    omega
  have hdrop : s.drop pre.length = w ++ s.drop (i + 1) := by
    conv => lhs; rw [← List.take_append_drop (i + 1) s, hs, List.append_assoc]
    exact List.drop_left
  have cut : pre.length ≤ i + 1 ∧ i + 1 ≤ s.length ∧
      (s.drop pre.length).take (i + 1 - pre.length) = w :=
    ⟨by omega, by omega, by
      rw [hdrop, show i + 1 - pre.length = w.length by omega, List.take_left]⟩
  cases o with
  | none => exact absurd rfl hn
  | panic t => exact hr.elim
  | msg m => exact ⟨cut.1, cut.2.1, cut.2.2.trans hr⟩
  | err e =>
    cases e with
    | discarded n =>
      obtain ⟨tile, h1, h2, h3, h4⟩ := hr
      -- the tile ends eight bytes before position `i + 1`
      have e : i + 1 - 8 = pre.length + n := by
        have : w.length = n + 8 := by rw [h1, List.length_append, h2]; rfl
        omega
      have ht : (s.drop pre.length).take n = tile := by
        rw [hdrop, h1, List.append_assoc, ← h2, List.take_left]
      have h8 : (s.drop (pre.length + n)).take 8 = START := by
        rw [← List.drop_drop, hdrop, h1, List.append_assoc, ← h2, List.drop_left]
        exact List.take_left' rfl
      rw [show tileEndOf (i + 1) (Out.err (.discarded n)) = pre.length + n from e]
      refine ⟨Nat.le_add_right _ _, by omega, (Nat.add_sub_cancel_left ..).symm, h3, h8, ?_⟩
      rw [Nat.add_sub_cancel_left, ht]
      rcases h4 with h4 | h4
      · exact Or.inl ⟨h4, fun h => (C08.startFree_iff _).1 h4 h.isInfix⟩
      · exact Or.inr ⟨h4, fun h => (C08.startFree_iff _).1 h h4.isInfix⟩
    | _ => exact ⟨cut.1, cut.2.1, cut.2.2 ▸ hr⟩

/-- The tiling statement anchored to the bytes.  The answers cut the consumed part of the stream
into the consecutive tiles `tilesFrom 0 0 answers` (`tiles_contig`: they begin at 0, each begins
where its predecessor ends, the last ends at the walker's final boundary).  Every tile is
  * exactly `frame m` for a delivered payload `m`, or
  * a rejected transmission (`InvalidMessage` / `InvalidEsc` / `OutOfMemory`): it begins with a
    start sequence, or
  * discarded bytes, directly followed by a start sequence: either noise in which no start sequence
    was completed (`StartFree`), or an aborted transmission (it begins with a start sequence). -/
theorem tiling_anchored (cap : Option Nat) (s : List UInt8) :
    (∃ bf, tileFrom 0 0 (Dec.pushAll (Dec.fresh cap) s).2 = some bf ∧
      Contig 0 bf (tilesFrom 0 0 (Dec.pushAll (Dec.fresh cap) s).2)) ∧
    ∀ tile ∈ tilesFrom 0 0 (Dec.pushAll (Dec.fresh cap) s).2, TileOk s tile := by
  obtain ⟨bf, hbf, _⟩ := tiling cap s
  refine ⟨⟨bf, hbf, tiles_contig _ 0 0 bf hbf⟩, ?_⟩
  rintro ⟨lo, hi, o⟩ hmem
  obtain ⟨j, g1, g2, g3, g4⟩ := mem_tilesFrom _ 0 0 lo hi o hmem (by rw [hbf]; rfl)
  rw [Nat.zero_add] at g3
  subst g3
  exact tileOk_at cap s j lo o g1 g2 g4

/-- A discarded-bytes report is produced exactly at the last byte of an occurrence of the start
sequence: the eight bytes ending at position `i` are `1b1b1b1b 01010101`. -/
theorem discarded_at_start (cap : Option Nat) (s : List UInt8) (i n : Nat)
    (h : (Dec.pushAll (Dec.fresh cap) s).2[i]? = some (.err (.discarded n))) :
    (s.take (i + 1)).drop (i + 1 - 8) = START ∧ 8 ≤ i + 1 := by
  obtain ⟨pre, w, hs, hi, ⟨tile, h1, h2, _⟩, _⟩ := Dec.wrep_at cap s i _ h
  have hl : (s.take (i + 1)).length = i + 1 := by rw [List.length_take]; omega
  have hlen : i + 1 = (pre ++ tile).length + 8 := by
    rw [← hl, hs, h1, ← List.append_assoc, List.length_append]; rfl
  refine ⟨?_, by omega⟩
  rw [hs, h1, ← List.append_assoc, show i + 1 - 8 = (pre ++ tile).length by omega, List.drop_left]

/-- The tile of a discarded-bytes report.  With `b` the boundary before position `i`:
`n = i+1-8-b > 0`, the start sequence occupies the positions `i+1-8 .. i+1`, and the discarded tile
`s[b .. b+n)` is EITHER noise in the sense of C08 (`StartFree`: in `tile ++ START` the start sequence
occurs only at the very end, i.e. no start sequence ends inside `(b, i+1-8+7]`; the decoder was
looking for a start) OR it begins with a start sequence (a transmission that started at `b` and was
aborted by `1b1b1b1b 01010101`); never both. -/
theorem tile_boundaries (cap : Option Nat) (s : List UInt8) (i n b : Nat)
    (hb : tileFrom 0 0 ((Dec.pushAll (Dec.fresh cap) s).2.take i) = some b)
    (h : (Dec.pushAll (Dec.fresh cap) s).2[i]? = some (.err (.discarded n))) :
    8 + b ≤ i + 1 ∧ n = i + 1 - 8 - b ∧ 0 < n ∧ (s.drop (b + n)).take 8 = START ∧
      ((StartFree ((s.drop b).take n) ∧ ¬ START <+: (s.drop b).take n) ∨
        (START <+: (s.drop b).take n ∧ ¬ StartFree ((s.drop b).take n))) := by
  obtain ⟨t1, t2, t3, t4, t5, t6⟩ := tileOk_at cap s i b _ h hb (by simp)
  obtain rfl : n = i + 1 - 8 - b := t3
  have t1 : b ≤ i + 1 - 8 := t1
  rw [show b + (i + 1 - 8 - b) = i + 1 - 8 by omega]
  exact ⟨by omega, rfl, t4, t5, t6⟩

/-- the noise case in positional form: no window of eight bytes inside `s[b .. i+1)` other than the
last one is the start sequence -/
theorem noise_tile_no_start {s : List UInt8} {b n : Nat} (hs : (s.drop (b + n)).take 8 = START)
    (hfree : StartFree ((s.drop b).take n)) (hn : b + n + 8 ≤ s.length) (k : Nat) (hk : k < n) :
    (s.drop (b + k)).take 8 ≠ START := by
  intro hc
  have hl : ((s.drop b).take n).length = n := by rw [List.length_take, List.length_drop]; omega
  apply hfree k (by rw [hl]; exact hk)
  -- `tile ++ START` is `s[b .. b+n+8)`
  have hts : (s.drop b).take n ++ START = (s.drop b).take (n + 8) := by
    rw [List.take_add, ← hs, List.drop_drop]
  rw [hts, List.drop_take]
  refine ⟨((s.drop b).drop k).take (n + 8 - k) |>.drop 8, ?_⟩
  have : (s.drop (b + k)).take 8 = (((s.drop b).drop k).take (n + 8 - k)).take 8 := by
    rw [List.drop_drop, List.take_take]
    congr 1
    omega
  rw [← hc, this, List.take_append_drop]

/-- The tile of a rejected transmission (`InvalidMessage`, `InvalidEsc`, `OutOfMemory`) begins with
a start sequence: the transmission that ends with the error began at the boundary `b`. -/
theorem rejected_tile_is_frame_start (cap : Option Nat) (s : List UInt8) (i b : Nat) (e : DecErr)
    (he : ∀ n, e ≠ .discarded n)
    (hb : tileFrom 0 0 ((Dec.pushAll (Dec.fresh cap) s).2.take i) = some b)
    (h : (Dec.pushAll (Dec.fresh cap) s).2[i]? = some (.err e)) :
    START <+: s.drop b ∧ START <+: (s.drop b).take (i + 1 - b) ∧ b + 8 ≤ i + 1 := by
  have key : START <+: (s.drop b).take (i + 1 - b) := by
    have := (tileOk_at cap s i b _ h hb (by simp)).2.2
    cases e with
    | discarded n => exact absurd rfl (he n)
    | _ => exact this
  refine ⟨key.trans (List.take_prefix _ _), key, ?_⟩
  have := key.length_le
  rw [List.length_take] at this
  simp [START] at this
  omega

/-- The tile of a delivered payload is exactly its canonical frame (this is `C17.frame_tile`). -/
theorem delivered_tile (cap : Option Nat) (s : List UInt8) (i b : Nat) (m : List UInt8)
    (hb : tileFrom 0 0 ((Dec.pushAll (Dec.fresh cap) s).2.take i) = some b)
    (h : (Dec.pushAll (Dec.fresh cap) s).2[i]? = some (.msg m)) :
    (s.drop b).take (i + 1 - b) = frame m ∧ b + (frame m).length = i + 1 := by
  obtain ⟨_, _, t3⟩ := tileOk_at cap s i b _ h hb (by simp)
  have t3 : (s.drop b).take (i + 1 - b) = frame m := t3
  refine ⟨t3, ?_⟩
  obtain ⟨b', e, hl, _⟩ := frame_tile cap s i m h
  rw [Option.some.inj (hb.symm.trans e)]
  exact hl

/-- The bytes after the last boundary `bf` (what `finalize` / `reset` / an I/O error will report):
while the decoder is looking for a start sequence none has been completed in them (`NoHit`);
inside a transmission they begin with a start sequence; after a delivered transmission there are
none. -/
theorem leftover (cap : Option Nat) (s : List UInt8) :
    ∃ bf, tileFrom 0 0 (Dec.pushAll (Dec.fresh cap) s).2 = some bf ∧ bf ≤ s.length ∧
      match (Dec.pushAll (Dec.fresh cap) s).1.st with
      | .look _ _ => NoHit (s.drop bf)
      | .done => bf = s.length
      | _ => START <+: s.drop bf := by
  obtain ⟨w, b, hw, ⟨pre, hpre⟩, e, hb⟩ :=
    Dec.winv_pushAll s (Dec.winv_fresh cap) (b := 0) (i := 0) rfl
  rw [List.nil_append] at hpre
  have hl : pre.length = b := by
    have := congrArg List.length hpre; rw [List.length_append] at this; omega
  have hd : s.drop b = w := by rw [← hpre, ← hl, List.drop_left]
  refine ⟨b, e, by omega, ?_⟩
  rcases hw.cases with ⟨_, _, hs, _, _, h⟩ | ⟨hs, h⟩ | ⟨h1, h2, h, _⟩
  · rw [hs, hd]; exact h
  · rw [hs]; rw [h] at hb; simpa using hb
  · rw [hd]
    cases hst : (Dec.pushAll (Dec.fresh cap) s).1.st with
    | look a b => exact absurd hst (h1 _ _)
    | done => exact absurd hst h2
    | _ => exact h

/-- the tiles of the sample: noise, a delivered frame, noise, a frame rejected for its checksum -/
example : tilesFrom 0 0 (Dec.pushAll (Dec.fresh none) sample).2 =
    [(0, 2, .err (.discarded 2)), (2, 22, .msg [0x12, 0x34, 0x56, 0x78]),
     (22, 25, .err (.discarded 3)), (25, 45, .err (.invalidMsg 0 30735 false 0 false))] := by
  decide +kernel

/-- a transmission aborted by the in-frame restart sequence: the discarded tile (positions 1..13)
begins with a start sequence -/
example : tilesFrom 0 0 (Dec.pushAll (Dec.fresh none)
      ([0xaa] ++ START ++ [1, 2, 3, 4] ++ START ++ [5])).2 =
    [(0, 1, .err (.discarded 1)), (1, 13, .err (.discarded 12))] := by decide +kernel

example : START <+: (([0xaa] ++ START ++ [1, 2, 3, 4] ++ START ++ [5]).drop 1).take 12 := by decide
example : StartFree ((([0xaa] ++ START ++ [1, 2, 3, 4] ++ START ++ [5]).drop 0).take 1) := by decide

end Sml.C17
