import Sml.Spec.TlfSpec
/-
  Type-length fields and numbers (property C12).  `parseTlf` is the positional rule `Spec.tlfSpec`
  (`parseTlf_eq_spec` / `parseTlf_eq_rule`, error kinds included; `*_bridge`: the model's bit
  operations are the rule's `toNat` arithmetic, by enumeration of the 256 bytes), and it reads a
  prefix (`parseTlf_frame`); the grammar's field `Spec.EncTlf t e` is `parseTlf e = .ok (t, [])`
  (`encTlf_iff`).  Then big-endian values with zero and sign extension, and `parseNum`
  (`parseNum_exact`).
-/
namespace Sml.C12
open Sml Sml.Spec

theorem forall_uint8 {P : UInt8 → Prop} (h : ∀ n (h : n < 256), P (UInt8.ofNatLT n h)) :
    ∀ b, P b := by
  intro b
  have := h b.toNat b.toNat_lt
  simpa using this

theorem nib_bridge : ∀ b : UInt8, tlfNibble b = nib b := forall_uint8 (by decide +kernel)
theorem more_bridge : ∀ b : UInt8, tlfMore b = more b := forall_uint8 (by decide +kernel)
theorem tyz_bridge : ∀ b : UInt8, tlfTyBits b = 0 ↔ tyBits b = 0 :=
  forall_uint8 (by decide +kernel)
theorem nib_lt : ∀ b : UInt8, nib b < 16 := fun b => Nat.mod_lt _ (by decide)

/-- only to state `ofBits_bridge` as a decidable proposition over the 256 bytes -/
local instance : DecidableEq (Except PErr Ty)
  | .ok x, .ok y => if h : x = y then isTrue (h ▸ rfl) else isFalse fun e => h (Except.ok.inj e)
  | .error x, .error y =>
    if h : x = y then isTrue (h ▸ rfl) else isFalse fun e => h (Except.error.inj e)
  | .ok _, .error _ => isFalse nofun
  | .error _, .ok _ => isFalse nofun

theorem ofBits_bridge : ∀ b : UInt8,
    Ty.ofBits (tlfTyBits b) =
      (match tyOfBits (tyBits b) with | some t => .ok t | none => .error .tlfInvalidTy) :=
  forall_uint8 (by decide +kernel)

theorem nibVal_nil : nibVal [] = 0 := rfl

theorem nibVal_snoc (pre : Bytes) (b : UInt8) : nibVal (pre ++ [b]) = nibVal pre * 16 + nib b := by
  simp [nibVal, List.foldl_append]

theorem nibVal_single (b : UInt8) : nibVal [b] = nib b := by
  simp [nibVal]

/-! `parseTlf` reads a prefix.  A successful run has consumed a non-empty field `e`, returns the same
  field whatever follows `e`, and the field is within `TlfBound` (`parseTlf_frame`).  With "parser =
  rule" (`parseTlf_eq_spec`) the grammar's `EncTlf t e` is `parseTlf e = .ok (t, [])` (`encTlf_iff`);
  the grammar and the canonical encoder rest on these two. -/

/-- one round of the loop.  Its overflow panic cannot fire after the staged test: a nibble is below
    16 and `u32Max + 1` is a multiple of 16 -/
theorem tlfLoop_cons (len n : Nat) (b : UInt8) (i : Bytes) :
    tlfLoop len n (b :: i) =
      if tlfTyBits b ≠ 0 then .error .tlfNextByteTypeMismatch
      else if len * 16 > u32Max then .error .tlfLengthOverflow
      else if tlfMore b = true then tlfLoop (len * 16 + nib b) (n + 1) i
      else .ok (len * 16 + nib b, n + 1, i) := by
  have := nib_lt b
  rw [tlfLoop, nib_bridge]
  by_cases h1 : tlfTyBits b ≠ 0
  · rw [if_pos h1, if_pos h1]
  by_cases h2 : len * 16 > u32Max
  · rw [if_neg h1, if_neg h1, if_pos h2, if_pos h2]
  · rw [if_neg h1, if_neg h1, if_neg h2, if_neg h2, if_neg (by simp only [u32Max] at h2 ⊢; omega)]

/-- a successful loop has read a prefix `e`, whatever follows it; the value fits 32 bits and has at
    most as many nibbles as bytes were read -/
theorem tlfLoop_frame (i : Bytes) : ∀ (len n l m : Nat) (r : Bytes), len < 16 ^ n →
    tlfLoop len n i = .ok (l, m, r) →
      l ≤ u32Max ∧ l < 16 ^ m ∧
        ∃ e, i = e ++ r ∧ m = n + e.length ∧ ∀ r', tlfLoop len n (e ++ r') = .ok (l, m, r') := by
  induction i with
  | nil => intro len n l m r _ h; cases h
  | cons b i ih =>
    intro len n l m r hlen h
    rw [tlfLoop_cons] at h
    by_cases h1 : tlfTyBits b ≠ 0
    · rw [if_pos h1] at h; cases h
    by_cases h2 : len * 16 > u32Max
    · rw [if_neg h1, if_pos h2] at h; cases h
    rw [if_neg h1, if_neg h2] at h
    have hnib := nib_lt b
    have hlen' : len * 16 + nib b < 16 ^ (n + 1) := by rw [Nat.pow_succ]; omega
    by_cases h4 : tlfMore b = true
    · rw [if_pos h4] at h
      obtain ⟨hl, hlm, e, rfl, rfl, hr⟩ := ih _ _ _ _ _ hlen' h
      refine ⟨hl, hlm, b :: e, rfl, by simp only [List.length_cons]; omega, fun r' => ?_⟩
      rw [List.cons_append, tlfLoop_cons, if_neg h1, if_neg h2, if_pos h4, hr]
    · rw [if_neg h4] at h
      obtain ⟨rfl, rfl, rfl⟩ : len * 16 + nib b = l ∧ n + 1 = m ∧ i = r := by
        simpa only [Except.ok.injEq, Prod.mk.injEq] using h
      refine ⟨by simp only [u32Max] at h2 ⊢; omega, hlen', [b], rfl, rfl, fun r' => ?_⟩
      rw [List.singleton_append, tlfLoop_cons, if_neg h1, if_neg h2, if_neg h4]

/-- what a field can announce: a list up to 2^32-1 elements, anything else up to 2^32-9 bytes -/
def TlfBound (t : Tlf) : Prop := if t.ty = .listOf then t.len ≤ u32Max else t.len + 8 ≤ u32Max

/-- below 16^7 a value plus 8 fits 32 bits; a field of 8 bytes or more subtracts at least 8 -/
theorem tlfBound_of (ty : Ty) (l m : Nat) (hl : l ≤ u32Max) (hm : l < 16 ^ m) :
    TlfBound ⟨ty, if ty = .listOf then l else l - m⟩ := by
  unfold TlfBound
  by_cases hty : ty = .listOf
  · simpa only [hty, if_true] using hl
  · simp only [hty, if_false]
    by_cases h7 : m ≤ 7
    · have : 16 ^ m ≤ 16 ^ 7 := Nat.pow_le_pow_right (by decide) h7
      simp only [u32Max, Nat.reducePow] at hl this ⊢
      omega
    · simp only [u32Max] at hl ⊢
      omega

theorem parseTlf_frame {i : Bytes} {t : Tlf} {r : Bytes} (h : parseTlf i = .ok (t, r)) :
    ∃ e, i = e ++ r ∧ 1 ≤ e.length ∧ TlfBound t ∧ ∀ r', parseTlf (e ++ r') = .ok (t, r') := by
  cases i with
  | nil => exact nomatch h
  | cons b rest =>
    have hnib := nib_lt b
    -- the loop, entered or not, has read `e` and nothing of what follows
    have hloop : ∀ l m r0,
        (if tlfMore b = true then tlfLoop (nib b) 1 rest else .ok (nib b, 1, rest)) = .ok (l, m, r0) →
        l ≤ u32Max ∧ l < 16 ^ m ∧ ∃ e, rest = e ++ r0 ∧ ∀ r', (if tlfMore b = true then
          tlfLoop (nib b) 1 (e ++ r') else .ok (nib b, 1, e ++ r')) = .ok (l, m, r') := by
      intro l m r0 hR
      by_cases hm : tlfMore b = true
      · simp only [if_pos hm] at hR ⊢
        obtain ⟨hl, hlm, e, rfl, _, hr⟩ := tlfLoop_frame _ _ _ _ _ _ hnib hR
        exact ⟨hl, hlm, e, rfl, hr⟩
      · simp only [if_neg hm, Except.ok.injEq, Prod.mk.injEq] at hR ⊢
        obtain ⟨rfl, rfl, rfl⟩ := hR
        exact ⟨by simp only [u32Max]; omega, hnib, [], rfl, fun _ => ⟨rfl, rfl, rfl⟩⟩
    rw [parseTlf, nib_bridge] at h
    split at h
    · cases h
    rename_i ty hty
    by_cases hres : ty = .boolean ∧ tlfMore b = true
    · rw [if_pos hres] at h; cases h
    rw [if_neg hres] at h
    simp only at h
    split at h
    · cases h
    rename_i l m r0 hR
    obtain ⟨hl, hlm, e, rfl, hr⟩ := hloop l m r0 hR
    -- the last step passes the rest through
    have hfin : ∀ r', parseTlf (b :: e ++ r') =
        if ty ≠ .listOf then
          if m > u32Max ∨ l < m then .error .tlfLengthUnderflow else .ok (⟨ty, l - m⟩, r')
        else .ok (⟨ty, l⟩, r') := fun r' => by
      rw [List.cons_append, parseTlf, nib_bridge, hty]
      simp only
      rw [if_neg hres, hr r']
    have hb := tlfBound_of ty l m hl hlm
    by_cases hty' : ty ≠ .listOf
    · rw [if_pos hty'] at h
      by_cases hu : m > u32Max ∨ l < m
      · rw [if_pos hu] at h; cases h
      rw [if_neg hu] at h
      cases h
      rw [if_neg hty'] at hb
      exact ⟨b :: e, rfl, by simp, hb, fun r' => by rw [hfin, if_pos hty', if_neg hu]⟩
    · rw [if_neg hty'] at h
      cases h
      rw [if_pos (Decidable.not_not.1 hty')] at hb
      exact ⟨b :: e, rfl, by simp, hb, fun r' => by rw [hfin, if_neg hty']⟩

theorem contError_at (pre : Bytes) (b : UInt8) (rest : Bytes) :
    contError (pre ++ b :: rest) pre.length =
      if tyBits b ≠ 0 then some .tlfNextByteTypeMismatch
      else if nibVal pre * 16 > u32Max then some .tlfLengthOverflow
      else none := by
  simp [contError]

theorem contError_end (pre : Bytes) : contError pre pre.length = some .unexpectedEOF := by
  simp [contError]

/-- the staged overflow test of `contError` at byte `i`, made before that byte's nibble is appended,
    says that the value of the first `i + 1` bytes does not fit 32 bits -/
theorem contError_overflow_iff (input : Bytes) (i : Nat) (hi : i < input.length) :
    nibVal (input.take i) * 16 > u32Max ↔ nibVal (input.take (i + 1)) ≥ 2 ^ 32 := by
  rw [List.take_add_one, List.getElem?_eq_getElem hi]
  show _ ↔ nibVal (input.take i ++ [input[i]]) ≥ _
  rw [nibVal_snoc]
  have := nib_lt input[i]
  simp only [u32Max]
  omega

theorem contError_eq_overflow_iff (input : Bytes) (i : Nat) :
    contError input i = some .tlfLengthOverflow ↔
      ∃ b, input[i]? = some b ∧ tyBits b = 0 ∧ nibVal (input.take (i + 1)) ≥ 2 ^ 32 := by
  unfold contError
  cases hb : input[i]? with
  | none => simp
  | some b =>
    have hov := contError_overflow_iff input i (List.getElem?_eq_some_iff.1 hb).1
    simp only [Option.some.injEq, exists_eq_left', ← hov]
    by_cases hty : tyBits b = 0 <;> by_cases ho : nibVal (input.take i) * 16 > u32Max <;>
      simp [hty, ho]

theorem contError_ne_panic (input : Bytes) (i : Nat) (s : String) :
    contError input i ≠ some (.panic s) := by
  unfold contError
  repeat' split
  all_goals simp

/-- `tlfLoop` against the positional rule.  Invariant: `pre` are the bytes already consumed, so the
    loop state is `len = nibVal pre`, `tlf_len = pre.length`, and the candidates still to test are
    `range' pre.length …` -/
theorem tlfLoop_spec (rest : Bytes) : ∀ (pre : Bytes),
    tlfLoop (nibVal pre) pre.length rest =
      match (List.range' pre.length ((rest.takeWhile more).length + 1)).findSome?
          (contError (pre ++ rest)) with
      | some e => .error e
      | none => .ok (nibVal ((pre ++ rest).take (pre.length + (rest.takeWhile more).length + 1)),
                     pre.length + (rest.takeWhile more).length + 1,
                     rest.drop ((rest.takeWhile more).length + 1)) := by
  induction rest with
  | nil =>
    intro pre
    simp [tlfLoop, contError_end]
  | cons b rest ih =>
    intro pre
    rw [tlfLoop_cons, List.range'_succ, List.findSome?_cons, contError_at]
    simp only [more_bridge]
    by_cases hty : tyBits b ≠ 0
    · simp [hty, (not_congr (tyz_bridge b)).2 hty]
    · have hty' : ¬ (tlfTyBits b ≠ 0) := fun h => hty ((not_congr (tyz_bridge b)).1 h)
      simp only [hty, hty', if_false]
      by_cases hov : nibVal pre * 16 > u32Max
      · simp [hov]
      · simp only [hov, if_false]
        by_cases hm : more b = true
        · have := ih (pre ++ [b])
          simp only [nibVal_snoc, List.length_append, List.length_singleton,
            List.append_assoc, List.singleton_append] at this
          simp only [hm, if_true, List.takeWhile_cons, List.length_cons, List.drop_succ_cons]
          rw [this]
          simp only [Nat.add_assoc, Nat.add_comm 1]
        · have htake : List.take (pre.length + 1) (pre ++ b :: rest) = pre ++ [b] := by
            rw [show pre ++ b :: rest = (pre ++ [b]) ++ rest by simp]
            exact List.take_left' (by simp)
          simp [hm, htake, nibVal_snoc]

/-- a result of `parseTlf` on `bs` as the rule gives it: the field and the number of bytes read
    (the statement of `C12.tlf_eq_spec` spells this `match` out) -/
def tlfConsumed (bs : Bytes) : PRes Tlf → Except PErr (Tlf × Nat)
  | .ok (t, rest) => .ok (t, bs.length - rest.length)
  | .error e => .error e

/-- after `tlfLoop_spec` both sides are the same `if` over the nibble value `v` and the number `j` of
    continuation bytes; the branch `m > u32Max` is dead because `v ≤ u32Max` -/
theorem parseTlf_eq_spec (bs : Bytes) :
    tlfConsumed bs (parseTlf bs) = tlfSpec bs := by
  cases bs with
  | nil => simp [parseTlf, tlfSpec, tlfConsumed]
  | cons b rest =>
    rw [parseTlf, tlfSpec, ofBits_bridge]
    cases hty : tyOfBits (tyBits b) with
    | none => simp [tlfConsumed]
    | some ty =>
      simp only [more_bridge, nib_bridge]
      by_cases hres : ty = .boolean ∧ more b = true
      · simp [hres, tlfConsumed]
      · simp only [hres, if_false]
        by_cases hm : more b = true
        · simp only [hm, if_true, List.takeWhile_cons, List.length_cons]
          have hspec := tlfLoop_spec rest [b]
          simp only [nibVal_single, List.length_singleton, List.singleton_append] at hspec
          cases hF : (List.range' 1 ((List.takeWhile more rest).length + 1)).findSome?
              (contError (b :: rest)) with
          | some e =>
            rw [hspec, hF]
            simp [tlfConsumed]
          | none =>
            rw [hF] at hspec
            simp only [Nat.add_comm 1] at hspec
            obtain ⟨h4, _, e, hrest, hlen, _⟩ := tlfLoop_frame _ _ _ _ _ _ (nib_lt b) hspec
            rw [hspec]
            have hrl : rest.length = (List.takeWhile more rest).length + 1 +
                (rest.drop ((List.takeWhile more rest).length + 1)).length := by
              have := congrArg List.length hrest
              simp only [List.length_append] at this
              omega
            generalize nibVal (List.take ((List.takeWhile more rest).length + 1 + 1) (b :: rest)) = v
              at *
            generalize (rest.drop ((List.takeWhile more rest).length + 1)) = r at *
            generalize (List.takeWhile more rest).length = j at *
            have hiff : (j + 1 + 1 > u32Max ∨ v < j + 1 + 1) ↔ v < j + 1 + 1 := by omega
            have hcons : rest.length + 1 - r.length = j + 1 + 1 := by omega
            by_cases hl : ty = .listOf
            · simp [hl, tlfConsumed, hcons]
            · simp only [hl, if_false, ne_eq, not_false_eq_true, if_true, hiff]
              by_cases hv : v < j + 1 + 1 <;> simp [hv, tlfConsumed, hcons]
        · have hm' : more b = false := by simpa using hm
          simp only [hm', Bool.false_eq_true, if_false, List.takeWhile_cons, List.length_nil,
            List.range'_zero, List.findSome?_nil, Nat.zero_add, List.take_succ_cons,
            List.take_zero, nibVal_single]
          by_cases hl : ty = .listOf
          · simp [hl, tlfConsumed]
          · have hiff : (1 > u32Max ∨ nib b < 1) ↔ nib b < 1 := by simp [u32Max]
            simp only [hl, if_false, ne_eq, not_false_eq_true, if_true, hiff]
            by_cases hv : nib b < 1 <;> simp [hv, tlfConsumed]

theorem tlfSpec_ne_panic (bs : Bytes) (s : String) : tlfSpec bs ≠ .error (.panic s) := by
  unfold tlfSpec
  split
  · simp
  · split
    · simp
    · split
      · simp
      · simp only
        split
        · rename_i e he
          obtain ⟨i, _, hi⟩ := List.exists_of_findSome?_eq_some he
          intro hc
          simp only [Except.error.injEq] at hc
          exact contError_ne_panic _ _ _ (hc ▸ hi)
        · split
          · simp
          · split <;> simp

/-- the remaining input is the suffix after the (non-empty) field -/
theorem tlf_rest (bs : Bytes) (t : Tlf) (rest : Bytes) :
    parseTlf bs = .ok (t, rest) → ∃ n, n ≤ bs.length ∧ 1 ≤ n ∧ rest = bs.drop n := by
  intro h
  obtain ⟨e, rfl, he, _⟩ := parseTlf_frame h
  exact ⟨e.length, by simp, he, by simp⟩

/-- the two together: `parseTlf` is the rule, followed by dropping the field -/
theorem parseTlf_eq_rule (bs : Bytes) :
    parseTlf bs = match Spec.tlfSpec bs with
      | .ok (t, n) => .ok (t, bs.drop n)
      | .error e => .error e := by
  rw [← parseTlf_eq_spec]
  cases hp : parseTlf bs with
  | error e => rfl
  | ok v =>
    obtain ⟨t, rest⟩ := v
    obtain ⟨n, h1, _, rfl⟩ := tlf_rest bs t rest hp
    simp only [tlfConsumed, List.length_drop]
    rw [show bs.length - (bs.length - n) = n by omega]

/-- the grammar's field `Spec.EncTlf t e` (the rule reads `e` completely) is a byte string that
    `parseTlf` reads to the end -/
theorem encTlf_iff (t : Tlf) (e : Bytes) :
    tlfSpec e = .ok (t, e.length) ↔ parseTlf e = .ok (t, []) := by
  constructor
  · intro h; rw [parseTlf_eq_rule, h]; simp only [List.drop_length]
  · intro h; rw [← parseTlf_eq_spec, h]; simp [tlfConsumed]

/-- the error kinds agree -/
theorem tlf_error_iff (bs : Bytes) (e : PErr) :
    parseTlf bs = .error e ↔ Spec.tlfSpec bs = .error e := by
  rw [parseTlf_eq_rule]
  cases Spec.tlfSpec bs with
  | error e' => simp
  | ok v => simp

theorem tlf_no_wrap (bs : Bytes) (t : Tlf) (rest : Bytes) :
    parseTlf bs = .ok (t, rest) → t.len ≤ u32Max := by
  intro h
  obtain ⟨_, _, _, hb, _⟩ := parseTlf_frame h
  unfold TlfBound at hb
  split at hb <;> omega

theorem tlf_no_panic (bs : Bytes) (s : String) : parseTlf bs ≠ .error (.panic s) := by
  intro h
  exact tlfSpec_ne_panic bs s ((tlf_error_iff bs _).1 h)

theorem beNat_nil : beNat [] = 0 := rfl

theorem foldl_be (bs : Bytes) : ∀ a : Nat,
    bs.foldl (fun acc b => acc * 256 + b.toNat) a = a * 256 ^ bs.length + beNat bs := by
  induction bs with
  | nil => intro a; simp [beNat]
  | cons b bs ih =>
    intro a
    simp only [beNat, List.foldl_cons, List.length_cons] at ih ⊢
    rw [ih (a * 256 + b.toNat), ih (0 * 256 + b.toNat)]
    simp only [Nat.zero_mul, Nat.zero_add, Nat.pow_succ, Nat.add_mul]
    rw [Nat.mul_assoc, Nat.mul_comm 256]
    omega

theorem beNat_cons (b : UInt8) (bs : Bytes) :
    beNat (b :: bs) = b.toNat * 256 ^ bs.length + beNat bs := by
  have := foldl_be bs (0 * 256 + b.toNat)
  simpa [beNat] using this

theorem beNat_append (as bs : Bytes) :
    beNat (as ++ bs) = beNat as * 256 ^ bs.length + beNat bs := by
  simp only [beNat, List.foldl_append]
  exact foldl_be bs _

theorem beNat_lt (bs : Bytes) : beNat bs < 256 ^ bs.length := by
  induction bs with
  | nil => simp [beNat]
  | cons b bs ih =>
    rw [beNat_cons, List.length_cons, Nat.pow_succ]
    have hb := b.toNat_lt
    have : b.toNat * 256 ^ bs.length ≤ 255 * 256 ^ bs.length := Nat.mul_le_mul_right _ (by omega)
    omega

theorem beNat_replicate_zero (k : Nat) : beNat (List.replicate k (0 : UInt8)) = 0 := by
  induction k with
  | zero => rfl
  | succ k ih => rw [List.replicate_succ, beNat_cons, ih]; simp

theorem beNat_replicate_ff (k : Nat) : beNat (List.replicate k (0xFF : UInt8)) + 1 = 256 ^ k := by
  induction k with
  | zero => rfl
  | succ k ih =>
    rw [List.replicate_succ, beNat_cons, List.length_replicate, Nat.pow_succ]
    have : (0xFF : UInt8).toNat = 255 := rfl
    rw [this]; omega

theorem two_pow_8 (n : Nat) : 2 ^ (8 * n) = 256 ^ n := Nat.pow_mul 2 8 n

theorem two_pow_8_pred (n : Nat) (h : 1 ≤ n) : 2 ^ (8 * n - 1) * 2 = 256 ^ n := by
  rw [← Nat.pow_succ, ← two_pow_8]; congr 1; omega

theorem fromBe_unsigned_ext (size k : Nat) (bs : Bytes) :
    fromBe false size (List.replicate k (0x00 : UInt8) ++ bs) = beNat bs := by
  simp [fromBe, beNat_append, beNat_replicate_zero]

/-- the sign bit of the first byte is the upper half of the value range -/
theorem beNat_cons_ge_half (b0 : UInt8) (tl : Bytes) :
    b0.toNat ≥ 128 ↔ beNat (b0 :: tl) ≥ 128 * 256 ^ tl.length := by
  rw [beNat_cons]
  have ht := beNat_lt tl
  generalize 256 ^ tl.length = P at *
  constructor
  · intro h
    have := Nat.mul_le_mul_right P h
    omega
  · intro h
    refine Nat.le_of_not_lt fun hn => ?_
    have := Nat.mul_le_mul_right P (show b0.toNat ≤ 127 by omega)
    omega

/-- sign extension.  Atoms for `omega`: `x` the value of the field, `h` half its range, `W = 2h` the
    range, `QW = 256^k · W` the range of the buffer, `FW = (256^k − 1) · W` the value of the `0xFF` fill;
    the two facts it combines are `FW + W = QW` and `x ≥ h ↔` sign bit (`beNat_cons_ge_half`) -/
theorem fromBe_signed_ext (b0 : UInt8) (tl : Bytes) (k : Nat) :
    fromBe true (k + (tl.length + 1))
        (List.replicate k (if b0 > 0x7F then (0xFF : UInt8) else 0x00) ++ b0 :: tl) =
      if b0.toNat ≥ 128 then (beNat (b0 :: tl) : Int) - (2 ^ (8 * (tl.length + 1)) : Nat)
      else beNat (b0 :: tl) := by
  have hgt : b0 > 0x7F ↔ b0.toNat ≥ 128 := UInt8.lt_iff_toNat_lt
  have hx := beNat_lt (b0 :: tl)
  have hhalf := beNat_cons_ge_half b0 tl
  have hQ : 0 < 256 ^ k := Nat.pow_pos (by decide)
  have hH := two_pow_8_pred (k + (tl.length + 1)) (by omega)
  have hW : 256 ^ (tl.length + 1) = 2 * (128 * 256 ^ tl.length) := by rw [Nat.pow_succ]; omega
  rw [Nat.pow_add] at hH
  simp only [fromBe, true_and, beNat_append, two_pow_8, List.length_cons] at hx ⊢
  rw [Nat.pow_add 256 k (tl.length + 1)]
  generalize beNat (b0 :: tl) = x at *
  generalize 128 * 256 ^ tl.length = h at *
  generalize 256 ^ (tl.length + 1) = W at *
  generalize 2 ^ (8 * (k + (tl.length + 1)) - 1) = H at *
  have hQW : W ≤ 256 ^ k * W := Nat.le_mul_of_pos_left W hQ
  by_cases hneg : b0.toNat ≥ 128
  · have hF := beNat_replicate_ff k
    have hFW : (beNat (List.replicate k (0xFF : UInt8)) + 1) * W = 256 ^ k * W := by rw [hF]
    rw [Nat.add_mul, Nat.one_mul] at hFW
    rw [if_pos (hgt.2 hneg), if_pos hneg]
    generalize beNat (List.replicate k (0xFF : UInt8)) * W = FW at *
    generalize 256 ^ k * W = QW at *
    have := hhalf.1 hneg
    rw [if_pos (by omega)]
    omega
  · rw [if_neg (fun h => hneg (hgt.1 h)), if_neg hneg, beNat_replicate_zero]
    generalize 256 ^ k * W = QW at *
    have : ¬ x ≥ h := fun h' => hneg (hhalf.2 h')
    rw [if_neg (by omega)]
    omega

theorem numCheck_iff (signed : Bool) (size : Nat) (tlf : Tlf) :
    numCheck signed size tlf = true ↔
      tlf.ty = (if signed then Ty.integer else Ty.unsigned) ∧ 1 ≤ tlf.len ∧ tlf.len ≤ size := by
  simp only [numCheck, Bool.and_eq_true, decide_eq_true_eq, bne_iff_ne, ne_eq]
  constructor
  · rintro ⟨⟨a, b⟩, c⟩; exact ⟨a, by omega, b⟩
  · rintro ⟨a, b, c⟩; exact ⟨⟨a, c⟩, by omega⟩

theorem parseNum_unsigned (size : Nat) (input : Bytes) (tlf : Tlf)
    (h : numCheck false size tlf = true) :
    parseNum false size input tlf =
      if input.length < tlf.len then .error .unexpectedEOF
      else .ok ((beNat (input.take tlf.len) : Int), input.drop tlf.len) := by
  obtain ⟨_, h1, h2⟩ := (numCheck_iff _ _ _).1 h
  unfold parseNum takeN
  by_cases hl : input.length < tlf.len
  · simp [hl]
  · have h3 : ¬ size < tlf.len := by omega
    simp [hl, h3, fromBe_unsigned_ext]

/-- big-endian two's-complement value of a byte string (sign = top bit of the first byte).  The
    grammar has its own `Spec.twos` with the same value (`Gram.twos_eq`): Spec/Grammar.lean mentions
    no proof module, and property C12 is stated without the grammar. -/
def twos (bs : Bytes) : Int :=
  if (match bs with | b0 :: _ => decide (b0.toNat ≥ 128) | [] => false)
  then (beNat bs : Int) - (2 ^ (8 * bs.length) : Nat)
  else beNat bs

/-- plain big-endian value of a byte string -/
def plain (bs : Bytes) : Int := beNat bs

/-- signed: sign extension followed by `from_be_bytes` is the two's-complement value of the
    encoded bytes -/
theorem parseNum_signed (size : Nat) (input : Bytes) (tlf : Tlf)
    (h : numCheck true size tlf = true) :
    parseNum true size input tlf =
      if input.length < tlf.len then .error .unexpectedEOF
      else .ok (twos (input.take tlf.len), input.drop tlf.len) := by
  obtain ⟨_, h1, h2⟩ := (numCheck_iff _ _ _).1 h
  by_cases hl : input.length < tlf.len
  · simp [hl, parseNum, takeN]
  have hlen : (input.take tlf.len).length = tlf.len := by simp; omega
  cases hb : input.take tlf.len with
  | nil => rw [hb] at hlen; simp at hlen; omega
  | cons b0 tl =>
    rw [hb] at hlen
    simp only [List.length_cons] at hlen
    have h3 : ¬ size < tlf.len := by omega
    unfold parseNum takeN
    simp only [hl, if_false, hb, if_true, h3, twos, List.length_cons, decide_eq_true_eq]
    have hsz : size = (size - tlf.len) + (tl.length + 1) := by omega
    rw [hsz, ← fromBe_signed_ext b0 tl (size - tlf.len)]
    simp [hlen]

theorem parseNum_exact (signed : Bool) (size : Nat) (tlf : Tlf)
    (input : Bytes) (h : numCheck signed size tlf = true) :
    parseNum signed size input tlf =
      (if input.length < tlf.len then .error .unexpectedEOF
       else .ok ((if signed then twos (input.take tlf.len) else plain (input.take tlf.len)),
                 input.drop tlf.len)) := by
  cases signed with
  | false => simpa [plain] using parseNum_unsigned size input tlf h
  | true => simpa using parseNum_signed size input tlf h

theorem cases_1_8 (w : Nat) (hw : 1 ≤ w ∧ w ≤ 8) :
    w = 1 ∨ w = 2 ∨ w = 3 ∨ w = 4 ∨ w = 5 ∨ w = 6 ∨ w = 7 ∨ w = 8 := by omega

/-- a field of unbounded size (witness for the `tlf_len` counter, a `usize`) -/
theorem tlfLoop_zeros (n : Nat) : ∀ m,
    tlfLoop 0 m (List.replicate n (0x80 : UInt8) ++ [0x05]) = .ok (5, m + n + 1, []) := by
  induction n with
  | zero => intro m; rfl
  | succ n ih =>
    intro m
    rw [List.replicate_succ, List.cons_append, tlfLoop_cons, if_neg (by decide), if_neg (by decide),
      if_pos (by decide), show 0 * 16 + nib 0x80 = 0 from rfl, ih (m + 1)]
    simp only [Nat.add_assoc, Nat.add_comm 1]

end Sml.C12
