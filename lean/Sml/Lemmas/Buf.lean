import Sml.Model.Buf
/-
  The abstract buffer `Buf` (Sml/Model/Buf.lean) of the codec models: `fitsCap`, the invariant
  `Buf.WF` (no more than the capacity), and `push` / `extend` as "append if the total fits, all or
  nothing".
-/
namespace Sml

namespace C07

/-- a total of `n` bytes fits into a buffer of capacity `cap` (`none` = growable `Vec`).  The
name is `C07.` because the statements of C07 were the first to use it; every property about a
capacity is stated with it. -/
def fitsCap (cap : Option Nat) (n : Nat) : Prop :=
  match cap with
  | none => True
  | some c => n ≤ c

instance (cap : Option Nat) (n : Nat) : Decidable (fitsCap cap n) := by
  unfold fitsCap; split <;> infer_instance

@[simp] theorem fitsCap_none (n : Nat) : fitsCap none n ↔ True := Iff.rfl

@[simp] theorem fitsCap_some (c n : Nat) : fitsCap (some c) n ↔ n ≤ c := Iff.rfl

theorem fitsCap_mono {c : Option Nat} {m n : Nat} (h : fitsCap c n) (hmn : m ≤ n) :
    fitsCap c m := by
  cases c with
  | none => trivial
  | some c => exact Nat.le_trans hmn h

theorem fitsCap_zero (c : Option Nat) : fitsCap c 0 := by
  cases c <;> simp

end C07

open C07

namespace Buf

def WF (b : Buf) : Prop := fitsCap b.cap b.len

instance (b : Buf) : Decidable b.WF := by unfold WF; infer_instance

theorem wf_clear (b : Buf) : b.clear.WF := fitsCap_zero b.cap

theorem wf_new (cap : Option Nat) : (Buf.new cap).WF := fitsCap_zero cap

/-- `extend_from_slice` appends the slice if the total fits and fails otherwise -/
theorem extend_eq (b : Buf) (s : List UInt8) :
    b.extend s =
      if fitsCap b.cap (b.len + s.length) then some { b with rdata := s.reverse ++ b.rdata }
      else none := by
  have hf : b.fits s.length = true ↔ fitsCap b.cap (b.len + s.length) := by
    unfold fits fitsCap len; cases b.cap <;> simp
  simp only [extend, hf]

theorem push_eq_extend (b : Buf) (x : UInt8) : b.push x = b.extend [x] := by
  unfold push extend isFull fits
  cases b.cap with
  | none => rfl
  | some c => by_cases h : c ≤ b.rdata.length <;> simp [h] <;> omega

theorem extend_some {b b' : Buf} {s : List UInt8} (h : b.extend s = some b') :
    b'.cap = b.cap ∧ b'.data = b.data ++ s ∧ b'.len = b.len + s.length ∧ b'.WF := by
  rw [extend_eq] at h
  split at h
  · next hf =>
    cases h
    exact ⟨rfl, by simp [data], by simp [len, Nat.add_comm],
      by simpa [WF, len, Nat.add_comm] using hf⟩
  · cases h

theorem extend_nil {b : Buf} (h : b.WF) : b.extend [] = some b := by
  rw [extend_eq]
  have : fitsCap b.cap (b.len + ([] : List UInt8).length) := h
  rw [if_pos this]
  rfl

theorem extend_extend (b : Buf) (s t : List UInt8) :
    (b.extend s).bind (·.extend t) = b.extend (s ++ t) := by
  rw [extend_eq b s, extend_eq b (s ++ t)]
  by_cases hs : fitsCap b.cap (b.len + s.length)
  · have hl : ({ b with rdata := s.reverse ++ b.rdata } : Buf).len + t.length
        = b.len + (s ++ t).length := by
      simp [len]; omega
    rw [if_pos hs, Option.bind_some, extend_eq]
    simp only [hl]
    split
    · simp
    · rfl
  · rw [if_neg hs, if_neg fun h => hs (fitsCap_mono h (by simp))]
    rfl

/-- An all-or-nothing append of `s` followed by a computation `k` that is itself an
all-or-nothing append of `t`, read off by `g` (`id`, or `finish` for the result type of the
encoder), is the append of `s ++ t`. -/
theorem extend_then {α : Type} (g : Option Buf → α) {b : Buf} {s t : List UInt8} {k : Buf → α}
    (hk : ∀ b', b.extend s = some b' → k b' = g (b'.extend t)) :
    (match b.extend s with
      | none => g none
      | some b' => k b') = g (b.extend (s ++ t)) := by
  rw [← extend_extend]
  cases h : b.extend s with
  | none => rfl
  | some b' => exact hk b' h

theorem push_cap {b b' : Buf} {x : UInt8} (h : b.push x = some b') : b'.cap = b.cap :=
  (extend_some (push_eq_extend b x ▸ h)).1

end Buf

end Sml
