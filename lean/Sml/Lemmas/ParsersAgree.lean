import Sml.Lemmas.StreamingParser
import Sml.Spec.Events
/-
  Lemmas for property C09: the allocating parser and the streaming parser perform the same field
  parser calls in the same order.

  `parseMessage` factors through `parseMessageStart` (the streaming message start), then the rest
  of the body (`bodyRun`: `parseEntries numVals`, `parseGlrEnd`) and `parseMsgTrailer` on the same
  remaining input; the streaming state machine, run from a message start, emits the events of
  `bodyRun` and performs exactly these calls; the events of one message reassemble to it.
-/
namespace Sml
open SParser Spec

/-- sequencing of a parser result with a continuation on the remaining input -/
def andThen {α β : Type} (x : PRes α) (k : α → Bytes → PRes β) : PRes β :=
  match x with
  | .error e => .error e
  | .ok (a, r) => k a r

@[simp] theorem andThen_ok {α β : Type} (a : α) (r : Bytes) (k : α → Bytes → PRes β) :
    andThen (.ok (a, r)) k = k a r := rfl

/-- the rest of a list response after its start: values, then signature and gateway time -/
def glrTail (g : GetListResponseStart) (r : Bytes) : PRes GetListResponse :=
  match parseEntries g.numVals r with
  | .error e => .error e
  | .ok (es, r) =>
    match parseGlrEnd r with
    | .error e => .error e
    | .ok (ge, r) => .ok (mkGlr g es ge, r)

/-- both functions make the same first four calls; then `parseList` is the field that `parseGlrStartWith`
    reads, followed by `glrTail`: destruct call by call, every error exit is `rfl` -/
theorem parseGetListResponseWith_factor (i : Bytes) (tlf : Tlf) :
    parseGetListResponseWith i tlf =
      andThen (parseGlrStartWith i tlf) glrTail := by
  unfold parseGetListResponseWith parseGlrStartWith
  rcases parseOpt parseOctet i with e | ⟨a1, i1⟩
  · rfl
  simp only
  rcases parseOctet i1 with e | ⟨a2, i2⟩
  · rfl
  simp only
  rcases parseOpt parseOctet i2 with e | ⟨a3, i3⟩
  · rfl
  simp only
  rcases parseOpt parseTime i3 with e | ⟨a4, i4⟩
  · rfl
  simp only [parseList, parseViaTlf]
  rcases parseTlf i4 with e | ⟨t, i5⟩
  · rfl
  simp only
  by_cases ht : t.ty = .listOf
  · simp only [ht, decide_true, Bool.not_true, Bool.false_eq_true, if_false, ne_eq,
      not_true_eq_false, andThen_ok, glrTail]
    rcases parseEntries t.len i5 with e | ⟨es, i6⟩
    · rfl
    simp only [parseGlrEnd]
    rcases parseOpt parseOctet i6 with e | ⟨a6, i7⟩
    · rfl
    simp only
    rcases parseOpt parseTime i7 with e | ⟨a7, i8⟩
    · rfl
    rfl
  · simp [ht, andThen]

theorem parseViaTlf_factor {α β : Type} (check : Tlf → Bool) (w : Bytes → Tlf → PRes β)
    (w' : Bytes → Tlf → PRes α) (k : α → Bytes → PRes β)
    (h : ∀ i tlf, w i tlf = andThen (w' i tlf) k) (i : Bytes) :
    parseViaTlf check w i = andThen (parseViaTlf check w' i) k := by
  unfold parseViaTlf
  rcases parseTlf i with e | ⟨tlf, rest⟩
  · rfl
  simp only
  split
  · rfl
  · exact h _ _

theorem parseGetListResponse_factor (i : Bytes) :
    parseGetListResponse i = andThen (parseGlrStart i) glrTail :=
  parseViaTlf_factor _ _ _ _ parseGetListResponseWith_factor i

/-- events and result of the rest of a message body after the streaming start `b`:
    nothing for open/close; for a list response the values, then the end event -/
def bodyRun : SBody → Bytes → List ParseEvent × PRes MessageBody
  | .openResponse o, r => ([], .ok (.openResponse o, r))
  | .closeResponse c, r => ([], .ok (.closeResponse c, r))
  | .getListResponse g, r =>
    ((entriesRun g.numVals r).1.map .listEntry ++
        (match (entriesRun g.numVals r).2 with
         | .error _ => []
         | .ok r1 => match parseGlrEnd r1 with
           | .error _ => []
           | .ok (ge, _) => [.getListResponseEnd ge]),
      match (entriesRun g.numVals r).2 with
      | .error e => .error e
      | .ok r1 => match parseGlrEnd r1 with
        | .error e => .error e
        | .ok (ge, r2) => .ok (.getListResponse (mkGlr g (entriesRun g.numVals r).1 ge), r2))

theorem bodyRun_getListResponse (g : GetListResponseStart) (r : Bytes) :
    (bodyRun (.getListResponse g) r).2 = mapRes .getListResponse (glrTail g r) := by
  simp only [glrTail, bodyRun, parseEntries_eq_run]
  rcases (entriesRun g.numVals r).2 with e | r1
  · rfl
  · simp only [outRes_ok]
    rcases parseGlrEnd r1 with e | ⟨ge, r2⟩ <;> rfl

theorem parseMessageBodyWith_factor (i : Bytes) (tlf : Tlf) :
    parseMessageBodyWith i tlf = andThen (parseSBodyWith i tlf) fun b r => (bodyRun b r).2 := by
  unfold parseMessageBodyWith parseSBodyWith
  rcases parseInt false 4 i with e | ⟨tag, i1⟩
  · rfl
  simp only
  split
  · rcases parseOpenResponse i1 with e | ⟨a, r⟩ <;> rfl
  split
  · rcases parseCloseResponse i1 with e | ⟨a, r⟩ <;> rfl
  split
  · rw [parseGetListResponse_factor]
    rcases parseGlrStart i1 with e | ⟨a, r⟩
    · rfl
    · exact (bodyRun_getListResponse a r).symm
  · rfl

theorem parseMessageBody_factor (i : Bytes) :
    parseMessageBody i = andThen (parseSBody i) fun b r => (bodyRun b r).2 :=
  parseViaTlf_factor _ _ _ _ parseMessageBodyWith_factor i

/-- a message is its streaming start, the rest of the body, and the trailer -/
theorem parseMessage_factor (i : Bytes) :
    parseMessage i = andThen (parseMessageStart i) fun ms r =>
      andThen (bodyRun ms.messageBody r).2 fun mb r2 =>
      andThen (parseMsgTrailer i r2) fun _ r3 => .ok (mkMessage ms mb, r3) := by
  unfold parseMessage parseMessageStart
  simp only
  rcases parseMsgHeader i with e | ⟨⟨tid, g, a⟩, i1⟩
  · rfl
  simp only
  rw [parseMessageBody_factor]
  rcases parseSBody i1 with e | ⟨b, i2⟩
  · rfl
  simp only [andThen_ok]
  rcases (bodyRun b i2).2 with e | ⟨mb, i3⟩
  · rfl
  simp only [andThen_ok]
  rcases parseMsgTrailer i i3 with e | ⟨u, i4⟩ <;> rfl

/-- items of a run after a parser call: the error, or the continuation -/
def runThen {α : Type} (x : PRes α) (k : α → Bytes → List SItem) : List SItem :=
  match x with
  | .error e => [.err e]
  | .ok (a, r) => k a r

@[simp] theorem runThen_error {α : Type} (e : PErr) (k : α → Bytes → List SItem) :
    runThen (.error e) k = [.err e] := rfl
@[simp] theorem runThen_ok {α : Type} (a : α) (r : Bytes) (k : α → Bytes → List SItem) :
    runThen (.ok (a, r)) k = k a r := rfl

theorem run_nil (mi : Bytes) : run ⟨[], mi, 0⟩ = [] := by
  rw [run_unfold, next_zero, if_pos rfl]

theorem run_start (i mi : Bytes) (h : i ≠ []) :
    run ⟨i, mi, 0⟩ = runThen (parseMessageStart i) fun ms r =>
      .ev (.messageStart ms) :: run ⟨r, i, pendingOf ms.messageBody⟩ := by
  rw [run_unfold, next_zero, if_neg h]
  rcases parseMessageStart i with e | ⟨ms, r⟩ <;> rfl

theorem run_trailer (r mi : Bytes) :
    run ⟨r, mi, 1⟩ = runThen (parseMsgTrailer mi r) fun _ r' => run ⟨r', mi, 0⟩ := by
  rw [run_unfold, next_one]
  rcases parseMsgTrailer mi r with e | ⟨u, r'⟩
  · rfl
  · exact (run_unfold _).symm

theorem run_end (r mi : Bytes) :
    run ⟨r, mi, 2⟩ = runThen (parseGlrEnd r) fun ge r' =>
      .ev (.getListResponseEnd ge) :: run ⟨r', mi, 1⟩ := by
  rw [run_unfold, next_two]
  rcases parseGlrEnd r with e | ⟨ge, r'⟩ <;> rfl

theorem run_entry (r mi : Bytes) (n : Nat) :
    run ⟨r, mi, n + 3⟩ = runThen (parseListEntry r) fun le r' =>
      .ev (.listEntry le) :: run ⟨r', mi, n + 2⟩ := by
  rw [run_unfold, next_entry]
  rcases parseListEntry r with e | ⟨le, r'⟩ <;> rfl

def outRun : Except PErr Bytes → (Bytes → List SItem) → List SItem
  | .error e, _ => [.err e]
  | .ok r, k => k r

@[simp] theorem outRun_error (e : PErr) (k : Bytes → List SItem) :
    outRun (.error e) k = [.err e] := rfl
@[simp] theorem outRun_ok (r : Bytes) (k : Bytes → List SItem) : outRun (.ok r) k = k r := rfl
theorem run_entries (mi : Bytes) (n : Nat) : ∀ i,
    run ⟨i, mi, n + 2⟩ = (entriesRun n i).1.map (fun e => SItem.ev (.listEntry e)) ++
      outRun (entriesRun n i).2 (fun r => run ⟨r, mi, 2⟩) := by
  induction n with
  | zero => intro i; simp [entriesRun, outRun]
  | succ n ih =>
    intro i
    rw [show n + 1 + 2 = n + 3 by omega, run_entry]
    simp only [entriesRun]
    cases parseListEntry i with
    | error e => simp [outRun]
    | ok v =>
      obtain ⟨x, r⟩ := v
      simp [ih r]

theorem run_body (orig : Bytes) (b : SBody) (r : Bytes) :
    run ⟨r, orig, pendingOf b⟩ = (bodyRun b r).1.map .ev ++
      runThen (bodyRun b r).2 (fun _ r2 => run ⟨r2, orig, 1⟩) := by
  cases b with
  | openResponse o => simp only [pendingOf, bodyRun, List.map_nil, List.nil_append, runThen_ok]
  | closeResponse c => simp only [pendingOf, bodyRun, List.map_nil, List.nil_append, runThen_ok]
  | getListResponse g =>
    simp only [pendingOf, bodyRun]
    rw [run_entries]
    simp only [List.map_append, List.map_map, List.append_assoc]
    congr 1
    rcases (entriesRun g.numVals r).2 with e | r1
    · rfl
    · simp only [outRun_ok, run_end]
      rcases parseGlrEnd r1 with e | ⟨ge, r2⟩ <;> rfl

/- `c` in the statements below is the flag `complete` of `Spec.reassembleFrom` / `Spec.wfFrom`: `true` asks
   for a sequence that ends between messages, `false` admits a prefix cut by an error. -/

theorem reassemble_entries (c : Bool) (rest : List ParseEvent) (st : MessageStart)
    (g : GetListResponseStart) : ∀ (es : List ListEntry) (missing : Nat) (acc : List ListEntry),
    es.length ≤ missing →
    reassembleFrom c (some ⟨st, g, missing, acc⟩) (es.map .listEntry ++ rest) =
      reassembleFrom c (some ⟨st, g, missing - es.length, es.reverse ++ acc⟩) rest := by
  intro es
  induction es with
  | nil => intro missing acc _; simp
  | cons e es ih =>
    intro missing acc h
    cases missing with
    | zero => simp at h
    | succ k =>
      simp only [List.map_cons, List.cons_append, reassembleFrom]
      rw [ih k (e :: acc) (by simpa using h)]
      simp

theorem reassemble_body (ms : MessageStart) (r r2 : Bytes) (mb : MessageBody)
    (h : (bodyRun ms.messageBody r).2 = .ok (mb, r2)) (c : Bool) (rest : List ParseEvent) :
    reassembleFrom c none (.messageStart ms :: ((bodyRun ms.messageBody r).1 ++ rest)) =
      (reassembleFrom c none rest).map (mkMessage ms mb :: ·) := by
  cases hb : ms.messageBody with
  | openResponse o =>
    rw [hb] at h
    cases h
    simp [reassembleFrom, hb, bodyRun]
  | closeResponse o =>
    rw [hb] at h
    cases h
    simp [reassembleFrom, hb, bodyRun]
  | getListResponse g =>
    rw [hb] at h
    simp only [bodyRun] at h ⊢
    rcases he : (entriesRun g.numVals r).2 with e | r1 <;> rw [he] at h
    · cases h
    simp only at h ⊢
    rcases hg : parseGlrEnd r1 with e | ⟨ge, r3⟩ <;> rw [hg] at h
    · cases h
    cases h
    have hlen := post_parseEntries _ r _ r1 (by rw [parseEntries_eq_run, he]; rfl)
    simp only [reassembleFrom, hb, List.append_assoc]
    rw [reassemble_entries _ _ _ _ _ _ _ (by omega)]
    simp [reassembleFrom, hlen]

theorem reassemble_body_error (ms : MessageStart) (r : Bytes) (e : PErr)
    (h : (bodyRun ms.messageBody r).2 = .error e) :
    reassembleFrom false none (.messageStart ms :: (bodyRun ms.messageBody r).1) = some [] := by
  cases hb : ms.messageBody with
  | openResponse o =>
    rw [hb] at h
    cases h
  | closeResponse o =>
    rw [hb] at h
    cases h
  | getListResponse g =>
    have hle := entriesRun_length_le g.numVals r
    have key : (bodyRun (.getListResponse g) r).1 = (entriesRun g.numVals r).1.map .listEntry := by
      rw [hb] at h
      simp only [bodyRun] at h ⊢
      rcases he : (entriesRun g.numVals r).2 with e | r1 <;> rw [he] at h
      · simp
      · simp only at h ⊢
        rcases hg : parseGlrEnd r1 with e | ⟨ge, r3⟩ <;> rw [hg] at h
        · simp
        · cases h
    have := reassemble_entries false [] ms g (entriesRun g.numVals r).1 g.numVals [] hle
    simp only [List.append_nil] at this
    simp [reassembleFrom, hb, key, this]

/-- what both parsers do from a state between messages, in terms of the result `res` of the message
    loop and the messages `cm` it completed -/
def Agree (i mi : Bytes) : Except PErr (List Message) → List Message → Prop
  | .ok ms, _ => ∃ evs, run ⟨i, mi, 0⟩ = evs.map .ev ∧ ∀ c, reassembleFrom c none evs = some ms
  | .error e, cm => ∃ evs extra, run ⟨i, mi, 0⟩ = evs.map .ev ++ [.err e] ∧
      extra.length ≤ 1 ∧ reassembleFrom false none evs = some (cm ++ extra)

/-- both parsers on the message at the start of a non-empty input: factor the message
    (`parseMessage_factor`) and the run (`run_start`, `run_body`, `run_trailer`) at the same three
    points - start, body, trailer - and compare case by case.  Either both fail with the same error
    and the events so far hold at most the one message whose trailer failed, or both go on with the
    same remaining input and the events reassemble to the message -/
theorem message_agree (i mi : Bytes) (hi : i ≠ []) :
    match parseMessage i with
    | .error e => ∃ evs extra, run ⟨i, mi, 0⟩ = evs.map .ev ++ [.err e] ∧
        extra.length ≤ 1 ∧ reassembleFrom false none evs = some extra
    | .ok (m, r) => ∃ evs, run ⟨i, mi, 0⟩ = evs.map .ev ++ run ⟨r, i, 0⟩ ∧
        ∀ c rest, reassembleFrom c none (evs ++ rest) = (reassembleFrom c none rest).map (m :: ·) := by
  rw [parseMessage_factor]
  have hrun := run_start i mi hi
  rcases hs : parseMessageStart i with e | ⟨ms, r⟩ <;> rw [hs] at hrun
  · exact ⟨[], [], hrun, Nat.zero_le 1, rfl⟩
  rw [andThen_ok]
  rw [runThen_ok, run_body] at hrun
  rcases hB : (bodyRun ms.messageBody r).2 with e | ⟨mb, r2⟩ <;> rw [hB] at hrun
  · exact ⟨.messageStart ms :: (bodyRun ms.messageBody r).1, [], by simpa using hrun,
      Nat.zero_le 1, reassemble_body_error ms r e hB⟩
  have hre := reassemble_body ms r r2 mb hB
  rw [andThen_ok]
  rw [runThen_ok, run_trailer] at hrun
  rcases hT : parseMsgTrailer i r2 with e | ⟨u, r3⟩ <;> rw [hT] at hrun
  · refine ⟨.messageStart ms :: (bodyRun ms.messageBody r).1, [mkMessage ms mb],
      by simpa using hrun, Nat.le_refl 1, ?_⟩
    simpa [reassembleFrom] using hre false []
  · exact ⟨.messageStart ms :: (bodyRun ms.messageBody r).1, by simpa using hrun,
      fun c rest => hre c rest⟩

theorem loop_agree (fuel : Nat) (i : Bytes) (hi : i.length ≤ fuel) :
    ∀ mi, Agree i mi (parseMessages fuel i) (completedMessages fuel i) := by
  refine parseMessages_induction (P := fun i res cm => ∀ mi, Agree i mi res cm)
    (fun mi => ?_) (fun b i e hp mi => ?_) (fun b i m r res cm hp ih mi => ?_) fuel i hi
  · exact ⟨[], by simp [run_nil], fun c => by cases c <;> rfl⟩
  · have := message_agree (b :: i) mi (List.cons_ne_nil _ _)
    rw [hp] at this
    exact this
  have := message_agree (b :: i) mi (List.cons_ne_nil _ _)
  rw [hp] at this
  obtain ⟨evs, hr, hre⟩ := this
  rcases res with e | ms'
  · obtain ⟨evs', extra, hrun', hx, hrea⟩ := ih (b :: i)
    exact ⟨evs ++ evs', extra, by simp [hr, hrun'], hx, by rw [hre false evs', hrea]; rfl⟩
  · obtain ⟨evs', hrun', hrea⟩ := ih (b :: i)
    exact ⟨evs ++ evs', by simp [hr, hrun'], fun c => by rw [hre c evs', hrea c]; rfl⟩

/-- the recognizer is the reassembler forgetting the messages -/
theorem wfFrom_eq_isSome (c : Bool) (s : Option OpenList) (evs : List ParseEvent) :
    wfFrom c (s.map OpenList.missing) evs = (reassembleFrom c s evs).isSome := by
  fun_induction reassembleFrom c s evs with
  | case1 => rfl
  | case2 o h =>
    subst h
    rfl
  | case3 o h =>
    rw [Bool.not_eq_true] at h
    subst h
    rfl
  | case4 m evs o hb ih => simpa only [Option.map_none, wfFrom, hb, Option.isSome_map] using ih
  | case5 m evs o hb ih => simpa only [Option.map_none, wfFrom, hb, Option.isSome_map] using ih
  | case6 m evs g hb ih => simpa only [Option.map_none, Option.map_some, wfFrom, hb] using ih
  | case7 o e evs k hk ih => simpa only [Option.map_some, wfFrom, hk] using ih
  | case8 o e evs hk => simp only [Option.map_some, wfFrom, hk, Option.isSome_none]
  | case9 o e evs hk ih =>
    simpa only [Option.map_some, Option.map_none, wfFrom, hk, Option.isSome_map] using ih
  | case10 o e evs hk =>
    obtain ⟨k, hk'⟩ := Nat.exists_eq_succ_of_ne_zero hk
    simp only [Option.map_some, wfFrom, hk', Option.isSome_none]
  | case11 t s h1 h2 h3 h4 h5 =>
    -- the remaining pairs of state and first event: both functions reject
    cases s with
    | none =>
      cases t with
      | nil => exact (h1 rfl rfl).elim
      | cons ev t => cases ev with
        | messageStart m => exact (h3 m t rfl rfl).elim
        | listEntry e => rfl
        | getListResponseEnd e => rfl
    | some o =>
      cases t with
      | nil => exact (h2 o rfl rfl).elim
      | cons ev t => cases ev with
        | messageStart m => rfl
        | listEntry e => exact (h4 o e t rfl rfl).elim
        | getListResponseEnd e => exact (h5 o e t rfl rfl).elim
theorem wf_of_reassemble (c : Bool) (evs : List ParseEvent) (s : Option OpenList)
    (ms : List Message) (h : reassembleFrom c s evs = some ms) :
    wfFrom c (s.map OpenList.missing) evs = true := by
  rw [wfFrom_eq_isSome, h]
  rfl

theorem wf_entries (c : Bool) (rest : List ParseEvent) : ∀ (es : List ListEntry) (n : Nat),
    wfFrom c (some (es.length + n)) (es.map .listEntry ++ rest) = wfFrom c (some n) rest := by
  intro es
  induction es with
  | nil => intro n; simp
  | cons e es ih =>
    intro n
    rw [show (e :: es).length + n = (es.length + n) + 1 by simp only [List.length_cons]; omega]
    simp only [List.map_cons, List.cons_append, wfFrom]
    exact ih n

/-- what a recognised word is, from either state of the recognizer: between messages a word of
    the grammar; inside a list response the missing values, the end event and a word -/
theorem grammar_of_wfFrom : ∀ (evs : List ParseEvent) (s : Option Nat), wfFrom true s evs = true →
    match s with
    | none => Grammar evs
    | some n => ∃ (es : List ListEntry) (e : GetListResponseEnd) (rest : List ParseEvent),
        evs = es.map .listEntry ++ .getListResponseEnd e :: rest ∧ es.length = n ∧ Grammar rest := by
  intro evs
  induction evs with
  | nil =>
    intro s h
    cases s with
    | none => exact .nil
    | some n => cases h
  | cons ev evs ih =>
    intro s h
    cases ev with
    | messageStart m =>
      cases s with
      | some n => cases h
      | none =>
        simp only [wfFrom] at h
        cases hb : m.messageBody with
        | openResponse o =>
          rw [hb] at h
          exact .nonlist m evs (fun g hg => nomatch hb.symm.trans hg) (ih none h)
        | closeResponse o =>
          rw [hb] at h
          exact .nonlist m evs (fun g hg => nomatch hb.symm.trans hg) (ih none h)
        | getListResponse g =>
          rw [hb] at h
          obtain ⟨es, e, rest, rfl, hn, hr⟩ := ih (some g.numVals) h
          exact .list m g es e rest hb hn hr
    | listEntry e =>
      match s, h with
      | some (k + 1), h =>
        obtain ⟨es, ge, rest, rfl, hn, hr⟩ := ih (some k) h
        exact ⟨e :: es, ge, rest, rfl, congrArg (· + 1) hn, hr⟩
    | getListResponseEnd e =>
      match s, h with
      | some 0, h => exact ⟨[], e, evs, rfl, rfl, ih none h⟩

theorem wf_of_grammar {evs : List ParseEvent} (h : Grammar evs) : wfFrom true none evs = true := by
  induction h with
  | nil => rfl
  | nonlist m rest hm _ ih =>
    simp only [wfFrom]
    cases hb : m.messageBody with
    | openResponse o => simpa using ih
    | closeResponse o => simpa using ih
    | getListResponse g => exact absurd hb (hm g)
  | list m g es e rest hm hn _ ih =>
    simp only [wfFrom, hm]
    have := wf_entries true (.getListResponseEnd e :: rest) es 0
    simp only [Nat.add_zero, hn] at this
    rw [this]
    simpa [wfFrom] using ih

theorem map_ev_ne_err (a b : List ParseEvent) (e : PErr) :
    a.map SItem.ev ≠ b.map SItem.ev ++ [.err e] := by
  intro h
  have : SItem.err e ∈ a.map SItem.ev := by rw [h]; simp
  obtain ⟨x, _, hx⟩ := List.mem_map.1 this
  cases hx

theorem map_ev_err_inj (a b : List ParseEvent) (e e' : PErr)
    (h : a.map SItem.ev ++ [.err e] = b.map SItem.ev ++ [.err e']) : a = b ∧ e = e' := by
  obtain ⟨h1, h2⟩ := List.append_inj' h rfl
  simp only [List.cons.injEq, SItem.err.injEq, and_true] at h2
  exact ⟨(List.map_inj_right fun _ _ => SItem.ev.inj).1 h1, h2⟩

/-- the two parsers on a whole file: either both succeed and the events reassemble to the file,
    or both fail with the same error and the events before the error are a well-formed prefix
    holding the completed messages (plus possibly the one message whose trailer failed) -/
theorem file_cases (x : Bytes) :
    (∃ F evs, parseFile x = .ok F ∧ run (new x) = evs.map .ev ∧
      ∀ c, reassembleFrom c none evs = some F.messages) ∨
    (∃ e evs extra, parseFile x = .error e ∧ run (new x) = evs.map .ev ++ [.err e] ∧
      extra.length ≤ 1 ∧
      reassembleFrom false none evs = some (completedMessages x.length x ++ extra)) := by
  have h := loop_agree x.length x (Nat.le_refl _) []
  cases hp : parseFile x with
  | ok F =>
    rw [parseFile_ok.1 hp] at h
    obtain ⟨evs, hr, hre⟩ := h
    exact Or.inl ⟨F, evs, rfl, hr, hre⟩
  | error e =>
    rw [parseFile_error.1 hp] at h
    obtain ⟨evs, extra, hr, hx, hre⟩ := h
    exact Or.inr ⟨e, evs, extra, rfl, hr, hx, hre⟩

end Sml
