import Sml.Lemmas.DecInv
/-
  Bounded versus unbounded buffer.  One step of a decoder over a buffer of capacity `c` is a function
  of the same step over an unbounded buffer (`Dec.RelS`, `Dec.pushByte_relS`): the same step if what
  the unbounded decoder then holds fits `c`; otherwise `OutOfMemory` and a reset decoder.  The
  unbounded decoder never answers `OutOfMemory` (`push_none_ne_oom`, no invariant needed).  Hence
  `push_withCapR` / `push_withCapR_oom`, `pushAll_withCapR`, `pushAll_rel`, and `pushAll_sim` (under
  the invariant what the decoder holds is bounded by `raw`).

  The data layer comes from its closed form (`pushList_eq`): `dataSteps` does not look at the
  capacity (`dataSteps_withCapR`).  The control layer is a term that mirrors the branch structure of
  the function: `rel_ite` at an `if`, `RelS.ctl` / `RelS.clear` at a leaf that only sets control
  fields, `afterPush_relS` at a data push (the only leaf where the two sides can part).
-/
namespace Sml
open C07

namespace Dec

/-- the same decoder over a buffer of capacity `c` -/
def withCap (d : Dec) (c : Option Nat) : Dec := { d with buf := { d.buf with cap := c } }

@[simp] theorem withCap_raw (d : Dec) (c) : (d.withCap c).raw = d.raw := rfl
@[simp] theorem withCap_zc (d : Dec) (c) : (d.withCap c).zc = d.zc := rfl
@[simp] theorem withCap_st (d : Dec) (c) : (d.withCap c).st = d.st := rfl
@[simp] theorem withCap_crc (d : Dec) (c) : (d.withCap c).crc = d.crc := rfl
@[simp] theorem withCap_cap (d : Dec) (c) : (d.withCap c).buf.cap = c := rfl
@[simp] theorem withCap_rdata (d : Dec) (c) : (d.withCap c).buf.rdata = d.buf.rdata := rfl
@[simp] theorem withCap_len (d : Dec) (c) : (d.withCap c).buf.len = d.buf.len := rfl
theorem withCap_reset (d : Dec) (c) : (d.withCap c).reset.1 = d.reset.1.withCap c := rfl

-- the unifier must not evaluate digests
attribute [local irreducible] crcUpdate crcByte startCrc crcFinal crcInit

/-- `withCap` under a second name (same body, the `R` carries no meaning): everything below except
`pushAll_sim` is stated with it, and so is `C15.fresh_rel`; `pushAll_sim` and the end results of C15
are stated with `withCap` -/
def withCapR (d : Dec) (c : Option Nat) : Dec := { d with buf := { d.buf with cap := c } }

def WFc (c : Option Nat) (d : Dec) : Prop := fitsCap c d.buf.rdata.length

instance (c : Option Nat) (d : Dec) : Decidable (WFc c d) := by unfold WFc; infer_instance

theorem dataStep_withCapR (d : Dec) (c : Option Nat) (b : UInt8) :
    (d.withCapR c).dataStep b = (d.dataStep b).withCapR c := by
  unfold dataStep
  by_cases hb : b = 0
  · by_cases hz : d.zc ≤ 3
    · rw [if_pos hb, if_pos hb, if_pos hz, if_pos (show (d.withCapR c).zc ≤ 3 from hz)]; rfl
    · rw [if_pos hb, if_pos hb, if_neg hz, if_neg (show ¬ (d.withCapR c).zc ≤ 3 from hz)]; rfl
  · rw [if_neg hb, if_neg hb]; rfl

theorem dataSteps_withCapR (c : Option Nat) (l : List UInt8) : ∀ d : Dec,
    (d.withCapR c).dataSteps l = (d.dataSteps l).withCapR c := by
  induction l with
  | nil => intro d; rfl
  | cons b l ih => intro d; rw [dataSteps_cons, dataSteps_cons, dataStep_withCapR, ih]

/-- a data push over an unbounded buffer always succeeds -/
theorem pushList_none {U : Dec} (hU : U.buf.cap = none) (l : List UInt8) :
    U.pushList l = .ok (U.dataSteps l) := by
  have wf : ∀ d : Dec, d.buf.cap = none → d.buf.WF := fun d h => by unfold Buf.WF; rw [h]; trivial
  rw [pushList_eq l (wf U hU), if_pos (wf _ ((grow_dataSteps l U).cap.trans hU))]

/-- the same push with capacity `c`: the same result if it fits, out of memory otherwise -/
theorem pushList_withCapR (c : Option Nat) {U : Dec} (hw : WFc c U) (l : List UInt8) :
    (U.withCapR c).pushList l =
      if WFc c (U.dataSteps l) then .ok ((U.dataSteps l).withCapR c) else .oom := by
  rw [pushList_eq l (show (U.withCapR c).buf.WF from hw), dataSteps_withCapR]; rfl

/-- unbounded outcome `x` versus bounded outcome `y` of one `push_byte`: the same (and the buffer
contents fit), or `y` is the out-of-memory error with the decoder reset.  This is `RelS` without
saying which alternative holds; it stays for `pushByte_rel` and in the shape of `pushAll_rel`, the
proofs go through `RelS`. -/
def Rel (c : Option Nat) (x y : Dec × Res) : Prop :=
  (y = (x.1.withCapR c, x.2) ∧ WFc c x.1 ∧ x.1.buf.cap = none) ∨
    (y.2 = .err .oom ∧ IsReset y.1 ∧ y.1.buf.cap = c)

/-- Unbounded outcome `x` versus outcome `y` with capacity `c` of one `push_byte`: `y` is a
function of `x`.  If what `x` holds fits, `y` is `x`; otherwise `y` is the out-of-memory error with
the decoder reset. -/
def RelS (c : Option Nat) (x y : Dec × Res) : Prop :=
  x.1.buf.cap = none ∧ x.2 ≠ .err .oom ∧
    if WFc c x.1 then y = (x.1.withCapR c, x.2)
    else y.2 = .err .oom ∧ IsReset y.1 ∧ y.1.buf.cap = c

theorem RelS.rel {c : Option Nat} {x y : Dec × Res} (h : RelS c x y) : Rel c x y := by
  obtain ⟨h1, _, h3⟩ := h
  by_cases hw : WFc c x.1
  · rw [if_pos hw] at h3; exact .inl ⟨h3, hw, h1⟩
  · rw [if_neg hw] at h3; exact .inr h3

/-- both sides set the same control fields and leave the buffer alone -/
theorem RelS.ctl {c : Option Nat} {U : Dec} (hU : U.buf.cap = none) (hw : WFc c U) (raw : Nat)
    (crc : UInt16) (st : DState) (zc : Nat) (r : Res) (hr : r ≠ .err .oom) :
    RelS c (⟨raw, crc, st, zc, U.buf⟩, r) (⟨raw, crc, st, zc, (U.withCapR c).buf⟩, r) :=
  ⟨hU, hr, by rw [if_pos (show WFc c ⟨raw, crc, st, zc, U.buf⟩ from hw)]; rfl⟩

/-- both sides set the same control fields and empty the buffer -/
theorem RelS.clear {c : Option Nat} (U : Dec) (hU : U.buf.cap = none) (raw : Nat) (crc : UInt16)
    (st : DState) (zc : Nat) (r : Res) (hr : r ≠ .err .oom) :
    RelS c (⟨raw, crc, st, zc, U.buf.clear⟩, r) (⟨raw, crc, st, zc, (U.withCapR c).buf.clear⟩, r) :=
  ⟨hU, hr, by rw [if_pos (show WFc c ⟨raw, crc, st, zc, U.buf.clear⟩ from fitsCap_zero c)]; rfl⟩

/-- A data push, then a continuation that only sets control fields (`hk`): the one kind of leaf
where the two sides can part. -/
theorem afterPush_relS {c : Option Nat} {U0 U : Dec} {l : List UInt8} {k : Dec → Dec × Res}
    (hU : U.buf.cap = none) (hw : WFc c U)
    (hk : ∀ d, (k d).1.buf = d.buf ∧ (k d).2 ≠ .err .oom ∧
      k (d.withCapR c) = ((k d).1.withCapR c, (k d).2)) :
    RelS c (afterPush U0 (U.pushList l) k)
      (afterPush (U0.withCapR c) ((U.withCapR c).pushList l) k) := by
  rw [pushList_none hU, pushList_withCapR c hw]
  have e : WFc c (k (U.dataSteps l)).1 ↔ WFc c (U.dataSteps l) := by unfold WFc; rw [(hk _).1]
  refine ⟨(congrArg Buf.cap (hk _).1).trans ((grow_dataSteps l U).cap.trans hU), (hk _).2.1, ?_⟩
  show if WFc c (k (U.dataSteps l)).1 then _ else _
  by_cases h : WFc c (U.dataSteps l)
  · rw [if_pos (e.2 h), if_pos h]; exact (hk _).2.2
  · rw [if_neg (fun h' => h (e.1 h')), if_neg h]; exact ⟨rfl, isReset_reset _, rfl⟩

theorem pushLook_relS (c : Option Nat) (U : Dec) (disc init : Nat) (b : UInt8)
    (hU : U.buf.cap = none) (hw : WFc c U) :
    RelS c (pushLook U disc init b) (pushLook (U.withCapR c) disc init b) := by
  have l := fun raw crc st zc r hr => RelS.ctl hU hw raw crc st zc r hr
  rw [pushLook_eq, pushLook_eq]
  exact rel_ite _ (l _ _ _ _ _ (by nofun))
    (rel_ite _ (l _ _ _ _ _ (by split <;> nofun)) (l _ _ _ _ _ (by nofun)))

/-- the accepted end sequence: `flush`, then `Done` (the `match` of `pushEnd`) -/
theorem flushDone_relS {c : Option Nat} (U0 : Dec) (hU0 : U0.buf.cap = none) (hw0 : WFc c U0) :
    RelS c
      (match U0.flush with
        | none => (U0.reset.1, Res.err .oom)
        | some d => ({ d with st := .done }, .ready))
      (match (U0.withCapR c).flush with
        | none => ((U0.withCapR c).reset.1, Res.err .oom)
        | some d => ({ d with st := .done }, .ready)) := by
  have wf : U0.buf.WF := by unfold Buf.WF; rw [hU0]; trivial
  rw [flush_eq wf, flush_eq (show (U0.withCapR c).buf.WF from hw0), if_pos (room_of_none hU0 _)]
  refine ⟨hU0, nofun, ?_⟩
  have e : (U0.withCapR c).room (U0.withCapR c).zc ↔
      WFc c (U0.setBuf 0 (List.replicate U0.zc 0 ++ U0.buf.rdata)) := by
    show fitsCap c (U0.buf.rdata.length + U0.zc) ↔
      fitsCap c (List.replicate U0.zc (0 : UInt8) ++ U0.buf.rdata).length
    rw [List.length_append, List.length_replicate, Nat.add_comm]
  show if WFc c (U0.setBuf 0 (List.replicate U0.zc 0 ++ U0.buf.rdata)) then _ else _
  by_cases h : WFc c (U0.setBuf 0 (List.replicate U0.zc 0 ++ U0.buf.rdata))
  · rw [if_pos h, if_pos (e.2 h)]; rfl
  · rw [if_neg h, if_neg (fun h' => h (e.1 h'))]; exact ⟨rfl, isReset_reset _, rfl⟩

theorem pushEnd_relS (c : Option Nat) (U : Dec) (q : Quad) (hU : U.buf.cap = none) (hw : WFc c U) :
    RelS c (pushEnd U q) (pushEnd (U.withCapR c) q) :=
  rel_ite _ (RelS.clear U hU _ _ _ _ _ (by nofun)) (rel_ite _ (RelS.ctl hU hw _ _ _ _ _ (by nofun))
    (flushDone_relS ⟨U.raw, crcInit, U.st, U.zc - q.b.toNat, U.buf⟩ hU hw))

theorem pushEscComplete_relS (c : Option Nat) (U : Dec) (q : Quad) (hU : U.buf.cap = none)
    (hw : WFc c U) : RelS c (pushEscComplete U q) (pushEscComplete (U.withCapR c) q) := by
  unfold pushEscComplete
  simp only [pushRep_eq_pushList]
  exact rel_ite _
    (afterPush_relS (U0 := { U with crc := _ }) hU hw fun _ => ⟨rfl, nofun, rfl⟩)
    (rel_ite _ (rel_ite _ (RelS.ctl hU hw _ _ _ _ _ (by nofun)) (RelS.clear U hU _ _ _ _ _ (by nofun)))
      (rel_ite _ (pushEnd_relS c U q hU hw) (rel_ite _
        (afterPush_relS (U0 := { U with crc := _ }) hU hw fun _ => ⟨rfl, nofun, rfl⟩)
        (RelS.clear U hU _ _ _ _ _ (by nofun)))))

theorem pushByte_relS (c : Option Nat) (U : Dec) (b : UInt8) (hU : U.buf.cap = none)
    (hw : WFc c U) : RelS c (U.pushByte b) ((U.withCapR c).pushByte b) := by
  obtain ⟨r, crc, st, z, buf⟩ := U
  have l := fun raw' crc' st' zc' res hr =>
    RelS.ctl (c := c) (U := ⟨r, crc, st, z, buf⟩) hU hw raw' crc' st' zc' res hr
  cases st with
  | look disc init => exact pushLook_relS c ⟨r + 1, crc, .look disc init, z, buf⟩ disc init b hU hw
  | done =>
    exact pushLook_relS c ⟨0 + 1, crc, .look 0 0, 0, buf.clear⟩ 0 0 b hU (fitsCap_zero c)
  | normal =>
    rw [pushByte_normal rfl, pushByte_normal rfl]
    exact rel_ite _ (l _ _ _ _ _ (by nofun))
      (afterPush_relS (U0 := ⟨r + 1, crcByte crc b, .normal, z, buf⟩) hU hw
        fun _ => ⟨rfl, nofun, rfl⟩)
  | escChars n =>
    rw [pushByte_escChars rfl, pushByte_escChars rfl]
    exact rel_ite _
      (afterPush_relS (U0 := ⟨r + 1, crcByte crc b, .escChars n, z, buf⟩) hU hw
        fun _ => ⟨rfl, nofun, rfl⟩)
      (rel_ite _ (l _ _ _ _ _ (by nofun)) (rel_ite _ (l _ _ _ _ _ (by nofun)) (l _ _ _ _ _ (by nofun))))
  | escPayload step q =>
    unfold pushByte
    dsimp only [withCapR]
    cases q.set step b with
    | none => exact l _ _ _ _ _ (by nofun)
    | some q' =>
      exact rel_ite _ (l _ _ _ _ _ (by nofun))
        (pushEscComplete_relS c ⟨r + 1, crc, .escPayload step q, z, buf⟩ q' hU hw)

/-- what is left of `pushByte_relS` when one forgets which alternative holds -/
theorem pushByte_rel (c : Option Nat) (U : Dec) (b : UInt8) (hU : U.buf.cap = none)
    (hw : WFc c U) : Rel c (U.pushByte b) ((U.withCapR c).pushByte b) :=
  (pushByte_relS c U b hU hw).rel

theorem borrowBuf_withCapR (d : Dec) (c : Option Nat) : (d.withCapR c).borrowBuf = d.borrowBuf := rfl

theorem resOut_withCapR (d : Dec) (c : Option Nat) (r : Res) : resOut (d.withCapR c) r = resOut d r := by
  cases r <;> rfl

/-- `Decoder::push_byte` with capacity `c`, as long as what the unbounded decoder holds fits -/
theorem push_withCapR {c : Option Nat} {U : Dec} (b : UInt8) (hU : U.buf.cap = none) (hw : WFc c U)
    (hfit : WFc c (U.push b).1) :
    (U.withCapR c).push b = ((U.push b).1.withCapR c, (U.push b).2) ∧ (U.push b).1.buf.cap = none := by
  rw [push_fst] at hfit
  obtain ⟨h1, _, h2⟩ := pushByte_relS c U b hU hw
  rw [if_pos hfit] at h2
  rw [push_eq, push_eq, h2, resOut_withCapR]
  exact ⟨rfl, h1⟩

/-- ... and at the first step where it does not -/
theorem push_withCapR_oom {c : Option Nat} {U : Dec} (b : UInt8) (hU : U.buf.cap = none)
    (hw : WFc c U) (hfit : ¬ WFc c (U.push b).1) :
    ((U.withCapR c).push b).2 = .err .oom ∧ IsReset ((U.withCapR c).push b).1 ∧
      ((U.withCapR c).push b).1.buf.cap = c := by
  rw [push_fst] at hfit
  obtain ⟨_, _, h2⟩ := pushByte_relS c U b hU hw
  rw [if_neg hfit] at h2
  rw [push_fst]
  exact ⟨push_err_iff.2 h2.1, h2.2⟩

/-- a decoder over an unbounded buffer never answers out-of-memory, whatever its state -/
theorem push_none_ne_oom {U : Dec} (hU : U.buf.cap = none) (b : UInt8) :
    (U.push b).2 ≠ .err .oom :=
  fun h => (pushByte_relS none U b hU trivial).2.1 (push_err_iff.1 h)

/-- a byte string: the run with capacity `c` is the unbounded run as long as every state of the
unbounded run fits -/
theorem pushAll_withCapR {c : Option Nat} (xs : List UInt8) : ∀ {U : Dec}, U.buf.cap = none →
    (∀ i, i ≤ xs.length → WFc c (U.pushAll (xs.take i)).1) →
    (U.withCapR c).pushAll xs = ((U.pushAll xs).1.withCapR c, (U.pushAll xs).2) := by
  induction xs with
  | nil => intro U _ _; rfl
  | cons x xs ih =>
    intro U hU h
    obtain ⟨h1, h2⟩ := push_withCapR x hU (h 0 (Nat.zero_le _)) (h 1 (by simp))
    rw [pushAll_consR, pushAll_consR, h1,
      ih h2 fun i hi => by simpa [pushAll_consR] using h (i + 1) (by simpa using hi)]

/-- The run with capacity `c` equals the unbounded run, or the first result that differs from the
unbounded run's is the out-of-memory error (after which the decoder is reset). -/
theorem pushAll_rel (c : Option Nat) (xs : List UInt8) : ∀ (U : Dec), U.buf.cap = none → WFc c U →
    (Dec.pushAll (U.withCapR c) xs = ((Dec.pushAll U xs).1.withCapR c, (Dec.pushAll U xs).2) ∧
        WFc c (Dec.pushAll U xs).1) ∨
      ∃ i, i < xs.length ∧
        (Dec.pushAll (U.withCapR c) (xs.take (i + 1))).2 = (Dec.pushAll U (xs.take i)).2 ++ [.err .oom] ∧
        IsReset (Dec.pushAll (U.withCapR c) (xs.take (i + 1))).1 ∧
        (Dec.pushAll (U.withCapR c) (xs.take (i + 1))).1.buf.cap = c := by
  induction xs with
  | nil => intro U _ hw; exact Or.inl ⟨rfl, hw⟩
  | cons x xs ih =>
    intro U hU hw
    by_cases hfit : WFc c (U.push x).1
    · obtain ⟨h1, h3⟩ := push_withCapR x hU hw hfit
      rcases ih (U.push x).1 h3 hfit with ⟨g1, g2⟩ | ⟨i, hi, g1, g2⟩
      · left
        simp only [pushAll_consR, h1, g1]
        exact ⟨trivial, g2⟩
      · right
        refine ⟨i + 1, by simp; omega, ?_, ?_⟩
        · simp only [List.take_succ_cons, pushAll_consR, h1, g1]
          rfl
        · simp only [List.take_succ_cons, pushAll_consR, h1]
          exact g2
    · obtain ⟨h1, h2⟩ := push_withCapR_oom x hU hw hfit
      right
      refine ⟨0, by simp, ?_, ?_⟩
      · simp [Dec.pushAll, h1]
      · simpa [Dec.pushAll] using h2

/-- A whole byte string: a capacity of `raw` + the number of bytes to come always suffices, because
under the invariant what the decoder holds is bounded by `raw`. -/
theorem pushAll_sim {c : Option Nat} (s : List UInt8) {d : Dec} (h : Inv d) (hcap : d.buf.cap = none)
    (hroom : fitsCap c (d.raw + s.length)) :
    (d.withCap c).pushAll s = ((d.pushAll s).1.withCap c, (d.pushAll s).2) :=
  pushAll_withCapR s hcap fun i hi => fitsCap_mono hroom (by
    have h1 := (pushAll_inv (s.take i) h).len_le_raw
    have h2 := pushAll_raw_le (s.take i) h
    simp only [Buf.len, List.length_take] at h1 h2 ⊢
    omega)

end Dec

end Sml
