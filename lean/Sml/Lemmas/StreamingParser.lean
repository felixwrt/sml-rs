import Sml.Lemmas.ParserBasic
/-
  The streaming parser as a state machine: one call of `Iterator::next` (`next_spec`), the run.
-/
namespace Sml
open SParser

section
set_option smartUnfolding false

theorem post_parseGlrStartWith (t : Tlf) : Post (·.numVals ≤ u32Max) (fun i => parseGlrStartWith i t) :=
  (Post.seq (parseOpt parseOctet) fun clientId => Post.seq parseOctet fun serverId =>
    Post.seq (parseOpt parseOctet) fun listName => Post.seq (parseOpt parseTime) fun actSensorTime =>
    Post.bind (Q₁ := fun tlf => tlf.len ≤ u32Max) (fun i v r => C12.tlf_no_wrap i v r) fun tlf h =>
    Post.ite (tlf.ty ≠ .listOf) (fun _ => Post.error .tlfMismatch) fun _ =>
    Post.pure (v := (⟨clientId, serverId, listName, actSensorTime, tlf.len⟩ : GetListResponseStart)) h :
    Post _ _)

/-- a list response announces at most `u32Max` values -/
def SBody.Fits : SBody → Prop
  | .getListResponse g => g.numVals ≤ u32Max
  | _ => True

theorem post_parseSBodyWith (t : Tlf) : Post SBody.Fits (fun i => parseSBodyWith i t) :=
  (Post.seq (parseInt false 4) fun tag =>
    Post.ite (tag = 0x0101) (fun _ => Post.map SBody.openResponse fun _ _ _ _ => trivial) fun _ =>
    Post.ite (tag = 0x0201) (fun _ => Post.map SBody.closeResponse fun _ _ _ _ => trivial) fun _ =>
    Post.ite (tag = 0x0701) (fun _ => Post.map SBody.getListResponse (Post.viaTlf post_parseGlrStartWith))
      fun _ => Post.error .unexpectedVariant : Post _ _)

theorem post_parseMessageStart : Post (fun m => m.messageBody.Fits) parseMessageStart :=
  (Post.seq parseMsgHeader fun h => (Post.viaTlf post_parseSBodyWith).bind fun messageBody hb =>
    Post.pure (v := (⟨h.1, h.2.1, h.2.2, messageBody⟩ : MessageStart)) hb : Post _ _)
end

namespace SParser

/-- the countdown value set by a message start: `num_vals + 2` for a list response, else 1 -/
def pendingOf : SBody → Nat
  | .getListResponse g => g.numVals + 2
  | _ => 1

/-- `parseNextStart` without the (unreachable) overflow branch -/
theorem parseNextStart_eq (p : SParser) :
    parseNextStart p =
      if p.input = [] then (p, .ok none)
      else match parseMessageStart p.input with
        | .error e => ({ p with msgInput := p.input }, .error e)
        | .ok (msg, rest) =>
          ({ input := rest, msgInput := p.input, pending := pendingOf msg.messageBody },
            .ok (some (.messageStart msg))) := by
  unfold parseNextStart
  by_cases he : p.input = []
  · simp [he]
  rw [if_neg (by simpa using he), if_neg he]
  simp only
  rcases heq : parseMessageStart p.input with e | ⟨msg, rest⟩
  · rfl
  have hf : msg.messageBody.Fits := post_parseMessageStart _ _ _ heq
  simp only
  rcases hb : msg.messageBody with o | c | g <;> rw [hb] at hf
  · rfl
  · rfl
  · have h2 : ¬ (g.numVals + 2 > u64Max) := by
      have : g.numVals ≤ u32Max := hf
      simp only [u32Max] at this
      simp only [u64Max]
      omega
    simp only [h2, if_false, pendingOf]

/-- the state invariant needed by the trailer: whenever a message is open, the remaining input is
    a (not longer) remainder of the message start -/
def Inv (p : SParser) : Prop := p.pending = 0 ∨ p.input.length ≤ p.msgInput.length

def Dead (p : SParser) : Prop := p.input = [] ∧ p.pending = 0

/-- the state after an error (`Iterator::next` empties the input) -/
abbrev dead (mi : Bytes) : SParser := ⟨[], mi, 0⟩

theorem next_zero (i mi : Bytes) :
    next ⟨i, mi, 0⟩ =
      if i = [] then (⟨i, mi, 0⟩, none)
      else match parseMessageStart i with
        | .error e => (dead i, some (.err e))
        | .ok (ms, r) => (⟨r, i, pendingOf ms.messageBody⟩, some (.ev (.messageStart ms))) := by
  by_cases hi : i = []
  · simp [next, parseNext, parseNextStart_eq, hi]
  · rcases h : parseMessageStart i with e | ⟨ms, r⟩ <;> simp [next, parseNext, parseNextStart_eq, hi, h]

theorem next_one (r mi : Bytes) :
    next ⟨r, mi, 1⟩ =
      match parseMsgTrailer mi r with
      | .error e => (dead mi, some (.err e))
      | .ok (_, r') => next ⟨r', mi, 0⟩ := by
  rcases h : parseMsgTrailer mi r with e | ⟨u, r'⟩ <;> simp [next, parseNext, h]

theorem next_two (r mi : Bytes) :
    next ⟨r, mi, 2⟩ =
      match parseGlrEnd r with
      | .error e => (dead mi, some (.err e))
      | .ok (ge, r') => (⟨r', mi, 1⟩, some (.ev (.getListResponseEnd ge))) := by
  rcases h : parseGlrEnd r with e | ⟨ge, r'⟩ <;> simp [next, parseNext, h]

theorem next_entry (r mi : Bytes) (n : Nat) :
    next ⟨r, mi, n + 3⟩ =
      match parseListEntry r with
      | .error e => (dead mi, some (.err e))
      | .ok (le, r') => (⟨r', mi, n + 2⟩, some (.ev (.listEntry le))) := by
  rcases h : parseListEntry r with e | ⟨le, r'⟩ <;> simp [next, parseNext, h]


/-- what one call of `Iterator::next` does: it ends (`None` or an error) in a dead state, or it
    yields an event and strictly shortens the input; from a state satisfying `Inv` the error is
    not a panic and `Inv` is kept -/
def StepOK (p : SParser) : SParser × Option SItem → Prop
  | (p', none) => Dead p'
  | (p', some (.err e)) => Dead p' ∧ (Inv p → ∀ s, e ≠ .panic s)
  | (p', some (.ev _)) => p'.input.length < p.input.length ∧ (Inv p → Inv p')

theorem StepOK.err {p : SParser} {mi : Bytes} {e : PErr} (h : Inv p → ∀ s, e ≠ .panic s) :
    StepOK p (dead mi, some (.err e)) := ⟨⟨rfl, rfl⟩, h⟩

theorem StepOK.ev {p : SParser} {r : Bytes} {n : Nat} {x : ParseEvent} (hp : p.pending ≠ 0)
    (hr : r.length < p.input.length) : StepOK p (⟨r, p.msgInput, n⟩, some (.ev x)) :=
  ⟨hr, fun hi => .inr (Nat.le_trans (Nat.le_of_lt hr) (hi.resolve_left hp))⟩

theorem next_spec (p : SParser) : StepOK p p.next := by
  -- a message start, from the state `q` itself or after `q`'s trailer
  have zero (i mi : Bytes) (q : SParser) (hq : i.length ≤ q.input.length) :
      StepOK q (next ⟨i, mi, 0⟩) := by
    rw [next_zero]
    split
    · exact ⟨‹_›, rfl⟩
    · split
      · exact .err fun _ => adv_parseMessageStart.error_ne_panic ‹_›
      · have := (adv_parseMessageStart.ok ‹_›).length_le
        exact ⟨by simp only; omega, fun _ => .inr (by simp only; omega)⟩
  obtain ⟨i, mi, _ | _ | _ | n⟩ := p
  · exact zero i mi _ (Nat.le_refl _)
  · rw [next_one]
    split
    · exact .err fun hi s hs =>
        (advAt_parseMsgTrailer (hi.resolve_left (Nat.succ_ne_zero 0))).2 s (hs ▸ ‹_›)
    · exact zero _ _ _ (Nat.le_trans (Nat.le_add_right _ 2) (parseMsgTrailer_ok _ _ _ _ ‹_›).length_le)
  · rw [next_two]
    split
    · exact .err fun _ => adv_parseGlrEnd.error_ne_panic ‹_›
    · exact .ev (Nat.succ_ne_zero 1) (adv_parseGlrEnd.ok ‹_›).length_lt
  · rw [next_entry]
    split
    · exact .err fun _ => adv_parseListEntry8.error_ne_panic ‹_›
    · exact .ev (Nat.succ_ne_zero _) (adv_parseListEntry8.ok ‹_›).length_lt

theorem next_inv {p p' : SParser} {r : Option SItem} (hi : Inv p) (h : p.next = (p', r)) :
    Inv p' ∧ ∀ s, r ≠ some (.err (.panic s)) := by
  have := next_spec p
  rw [h] at this
  rcases r with _ | _ | e
  · exact ⟨.inl this.2, fun _ h => nomatch h⟩
  · exact ⟨this.2 hi, fun _ h => nomatch h⟩
  · exact ⟨.inl this.1.2, fun s h => this.2 hi s (by cases h; rfl)⟩

theorem next_dead {p : SParser} (h : Dead p) : p.next = (p, none) := by
  obtain ⟨i, mi, n⟩ := p
  obtain ⟨rfl, rfl⟩ := h
  rw [next_zero, if_pos rfl]

theorem take_zero (p : SParser) : p.take 0 = (p, []) := rfl

theorem take_succ (p : SParser) (n : Nat) :
    p.take (n + 1) = ((p.next.1.take n).1, p.next.2 :: (p.next.1.take n).2) := rfl

theorem take_dead {p : SParser} (h : Dead p) (k : Nat) :
    p.take k = (p, List.replicate k none) := by
  induction k with
  | zero => rfl
  | succ k ih => rw [take_succ, next_dead h]; simp [ih, List.replicate_succ]

/-- induction along the run, with what `next_spec` says in each of the three cases -/
theorem run_induction {P : SParser → Prop}
    (stop : ∀ p p', p.next = (p', none) → Dead p' → P p)
    (err : ∀ p p' e, p.next = (p', some (.err e)) → Dead p' → P p)
    (ev : ∀ p p' x, p.next = (p', some (.ev x)) → p'.input.length < p.input.length → P p' → P p)
    (p : SParser) : P p := by
  generalize hn : p.input.length = n
  induction n using Nat.strongRecOn generalizing p with
  | ind n ih =>
    have hs := next_spec p
    rcases h : p.next with ⟨p', _ | ⟨x | e⟩⟩ <;> rw [h] at hs
    · exact stop p p' h hs
    · exact ev p p' x h hs.1 (ih _ (hn ▸ hs.1) p' rfl)
    · exact err p p' e h hs.1

theorem collect_fuel (p : SParser) : ∀ f1 f2, p.input.length ≤ f1 → p.input.length ≤ f2 →
    p.collect (f1 + 1) = p.collect (f2 + 1) := by
  induction p using run_induction with
  | stop p p' h _ => intro f1 f2 _ _; simp only [collect, h]
  | err p p' e h _ => intro f1 f2 _ _; simp only [collect, h]
  | ev p p' x h hlt ih =>
    intro f1 f2 h1 h2
    obtain ⟨f1, rfl⟩ : ∃ k, f1 = k + 1 := ⟨f1 - 1, by omega⟩
    obtain ⟨f2, rfl⟩ : ∃ k, f2 = k + 1 := ⟨f2 - 1, by omega⟩
    rw [collect, collect, h]
    simp only
    rw [ih f1 f2 (by omega) (by omega)]

def run (p : SParser) : List SItem := p.collect (p.input.length + 1)

theorem collect_eq_run (p : SParser) (fuel : Nat) (h : p.input.length + 1 ≤ fuel) :
    p.collect fuel = run p := by
  obtain ⟨fuel, rfl⟩ : ∃ k, fuel = k + 1 := ⟨fuel - 1, by omega⟩
  exact collect_fuel p _ _ (by omega) (Nat.le_refl _)

theorem run_unfold (p : SParser) :
    run p = match p.next with
      | (_, none) => []
      | (_, some (.err e)) => [.err e]
      | (p', some (.ev x)) => .ev x :: run p' := by
  induction p using run_induction with
  | stop p p' h _ => simp only [run, collect, h]
  | err p p' e h _ => simp only [run, collect, h]
  | ev p p' x h hlt _ =>
    simp only [run, collect, h]
    rw [collect_eq_run p' _ (by omega)]
    rfl

def SItem.isEv : SItem → Bool
  | .ev _ => true
  | .err _ => false

theorem run_err_last (p : SParser) : ∀ (j : Nat) (e : PErr), (run p)[j]? = some (.err e) →
    j + 1 = (run p).length := by
  induction p using run_induction with
  | stop p p' h _ => intro j e hj; simp [run_unfold, h] at hj
  | err p p' e' h _ =>
    intro j e hj
    rw [run_unfold, h] at hj ⊢
    cases j with
    | zero => rfl
    | succ j => simp at hj
  | ev p p' x h _ ih =>
    intro j e hj
    rw [run_unfold, h] at hj ⊢
    cases j with
    | zero => simp at hj
    | succ j => simpa using ih j e (by simpa using hj)

theorem run_length_le (p : SParser) : (run p).length ≤ p.input.length + 1 := by
  induction p using run_induction with
  | stop p p' h _ => simp [run_unfold, h]
  | err p p' e h _ => simp [run_unfold, h]
  | ev p p' x h hlt ih =>
    rw [run_unfold, h]
    simp only [List.length_cons]
    omega

theorem run_events_le (p : SParser) : ((run p).filter SItem.isEv).length ≤ p.input.length := by
  induction p using run_induction with
  | stop p p' h _ => simp [run_unfold, h]
  | err p p' e h _ => simp [run_unfold, h, SItem.isEv]
  | ev p p' x h hlt ih =>
    rw [run_unfold, h]
    simp only [List.filter_cons, SItem.isEv, if_true, List.length_cons]
    omega

theorem run_new (x : Bytes) : run (new x) = (new x).collect (x.length + 1) := rfl

theorem take_eq_run (p : SParser) : ∀ k,
    (p.take k).2 = ((run p).take k).map some ++ List.replicate (k - (run p).length) none := by
  induction p using run_induction with
  | stop p p' h hd =>
    intro k
    cases k with
    | zero => simp [take_zero]
    | succ k => simp [take_succ, run_unfold, h, take_dead hd, List.replicate_succ]
  | err p p' e h hd =>
    intro k
    cases k with
    | zero => simp [take_zero]
    | succ k => simp [take_succ, run_unfold, h, take_dead hd]
  | ev p p' x h _ ih =>
    intro k
    cases k with
    | zero => simp [take_zero]
    | succ k =>
      rw [take_succ, run_unfold, h]
      simp only [List.take_succ_cons, List.map_cons, List.cons_append, List.length_cons,
        Nat.add_sub_add_right]
      rw [ih k]

theorem take_no_panic (k : Nat) : ∀ (p : SParser), Inv p →
    ∀ it ∈ (p.take k).2, ∀ s, it ≠ some (.err (.panic s)) := by
  induction k with
  | zero => intro p _ it hit; simp [take_zero] at hit
  | succ k ih =>
    intro p hi it hit s
    rw [take_succ] at hit
    obtain ⟨hi', hnp⟩ := next_inv hi (show p.next = (p.next.1, p.next.2) from rfl)
    simp only [List.mem_cons] at hit
    rcases hit with rfl | hit
    · exact hnp s
    · exact ih _ hi' it hit s

end SParser
end Sml
