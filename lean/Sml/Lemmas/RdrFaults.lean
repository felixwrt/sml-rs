import Sml.Lemmas.Rdr
/-
  `DecoderReader` over a byte source with faults (property C11).

  The reader over an `io::Read` (`SrcKind.io`) is the push decoder driven by the history
  `opsOf evs` (a byte is a `push_byte`, an "other" I/O error and a mid-stream end of input
  (`Ev.eof`) are a `reset`, `WouldBlock` and `Interrupted` are nothing).  `body d evs` are the results
  `read` produces while events are left, `endDec d evs` is the decoder afterwards: `Rdr.trace` and
  `Rdr.decAfter` of Sml/Lemmas/Rdr.lean at `SrcKind.io` (`body_eq`, `endDec_eq`); the other source
  kinds have `C11.bodyEh` (`.eh`) or speak of `Rdr.trace` directly.  The transformations of the event
  list asked for in C11 (erasing would-blocks / interrupts, cutting at an "other" error or at a
  mid-stream end of input) are statements about `body` / `endDec`; those that do not depend on the
  source kind (erasing and counting would-blocks, what never occurs) are instances of the lemmas about
  `Rdr.trace kind`.
-/
namespace Sml

/-- among the first `k + W` elements of `L` there are at least `k` that satisfy `p`, if at most
`W` elements of `L` violate `p` (or `L` is shorter): filtering the prefix or the whole list gives the
same first `k` -/
theorem take_filter_take {α : Type} (p : α → Bool) (L : List α) (k W : Nat)
    (hW : L.countP (fun a => decide ¬p a = true) ≤ W) :
    ((L.take (k + W)).filter p).take k = (L.filter p).take k := by
  rcases Nat.le_total L.length (k + W) with h | h
  · rw [List.take_of_length_le h]
  · have h1 := Nat.le_trans (List.take_sublist (k + W) L).countP_le hW
    have h3 := List.length_eq_countP_add_countP p (l := L.take (k + W))
    rw [List.length_take, Nat.min_eq_left h, List.countP_eq_length_filter] at h3
    conv => rhs; rw [← List.take_append_drop (k + W) L, List.filter_append]
    rw [List.take_append_of_le_length (by omega)]

namespace C11

/-- what `next` returns for a mid-stream end of input with `n` bytes pending -/
def midEof (n : Nat) : RItem := if n = 0 then .none else .ioErr .eof n

end C11

namespace RF
open Rdr
open C11 (dropWB midEof)

/-- the decoder operations an event sequence causes (`SrcKind.io`); it is `evs.flatMap (Rdr.evOps
.io)` (`opsOf_eq`), written out because C11 is stated with it -/
def opsOf : List Ev → List Op
  | [] => []
  | .byte b :: evs => .push b :: opsOf evs
  | .wouldBlock :: evs => opsOf evs
  | .interrupted :: evs => opsOf evs
  | .other :: evs => .reset :: opsOf evs
  | .eof :: evs => .reset :: opsOf evs

/-- the bytes among the events; the same function as the `filterMap` `C02.evBytes` of Props/C02.lean
(C01 and C11 are stated with this one, C02 with that) -/
def bytesOf : List Ev → List UInt8
  | [] => []
  | .byte b :: evs => b :: bytesOf evs
  | .wouldBlock :: evs => bytesOf evs
  | .interrupted :: evs => bytesOf evs
  | .other :: evs => bytesOf evs
  | .eof :: evs => bytesOf evs

/-- the results `read` produces while events are left (`SrcKind.io`); it is `Rdr.trace .io`
(`body_eq`; `endDec` below is `Rdr.decAfter .io`, `endDec_eq`), written out because C11 is stated
with it -/
def body (d : Dec) : List Ev → List RItem
  | [] => []
  | .byte b :: evs => outItem (d.push b).2 ++ body (d.push b).1 evs
  | .wouldBlock :: evs => .ioErr .wouldBlock 0 :: body d evs
  | .interrupted :: evs => body d evs
  | .other :: evs => .ioErr .other d.reset.2 :: body d.reset.1 evs
  | .eof :: evs => .ioErr .eof d.reset.2 :: body d.reset.1 evs

/-- what `next` makes of these: a mid-stream end of input with nothing pending is `None` -/
def nextBody (d : Dec) (evs : List Ev) : List RItem := (body d evs).map (view .next)

/-- the decoder when the events are exhausted -/
def endDec (d : Dec) (evs : List Ev) : Dec := (d.run (opsOf evs)).1

/-- all results of `next` that are not the final `None`s (a mid-stream end of input with nothing
pending contributes a `None` in the middle) -/
def results (d : Dec) (evs : List Ev) : List RItem :=
  nextBody d evs ++ C10.eofItems (endDec d evs).reset.2

/-- all results of `read` before the idle answer `Eof, 0` -/
def readResults (d : Dec) (evs : List Ev) : List RItem :=
  body d evs ++ [.ioErr .eof (endDec d evs).reset.2]

theorem opsOf_eq (evs : List Ev) : opsOf evs = evs.flatMap (evOps .io) := by
  induction evs with
  | nil => rfl
  | cons e evs ih => cases e <;> simp [opsOf, evOps, ih]

theorem body_eq (evs : List Ev) : ∀ d : Dec, body d evs = trace .io d evs := by
  induction evs with
  | nil => intro d; rfl
  | cons e evs ih => intro d; cases e <;> simp [body, trace, evStep, ih]

theorem endDec_eq (d : Dec) (evs : List Ev) : endDec d evs = decAfter .io d evs := by
  rw [decAfter_eq_run, ← opsOf_eq]; rfl

theorem endDec_nil (d : Dec) : endDec d [] = d := rfl
theorem endDec_wouldBlock (d : Dec) (evs : List Ev) : endDec d (.wouldBlock :: evs) = endDec d evs :=
  rfl

theorem opsOf_append (e1 e2 : List Ev) : opsOf (e1 ++ e2) = opsOf e1 ++ opsOf e2 := by
  rw [opsOf_eq, opsOf_eq, opsOf_eq, List.flatMap_append]

theorem body_append (e1 : List Ev) (d : Dec) (e2 : List Ev) :
    body d (e1 ++ e2) = body d e1 ++ body (endDec d e1) e2 := by
  rw [body_eq, body_eq, body_eq, endDec_eq, trace_append]

theorem nextBody_append (d : Dec) (e1 e2 : List Ev) :
    nextBody d (e1 ++ e2) = nextBody d e1 ++ nextBody (endDec d e1) e2 := by
  unfold nextBody; rw [body_append, List.map_append]

theorem bytesOf_append (e1 e2 : List Ev) : bytesOf (e1 ++ e2) = bytesOf e1 ++ bytesOf e2 := by
  induction e1 with
  | nil => rfl
  | cons e e1 ih => cases e <;> simp [bytesOf, ih]

theorem pushCount_evOps (kind : SrcKind) (evs : List Ev) :
    Spec.pushCount (evs.flatMap (evOps kind)) = (bytesOf evs).length := by
  induction evs with
  | nil => rfl
  | cons e evs ih => cases e <;> cases kind <;> simp_all [evOps, bytesOf, Spec.pushCount]

theorem pushCount_opsOf (evs : List Ev) : Spec.pushCount (opsOf evs) = (bytesOf evs).length := by
  rw [opsOf_eq]; exact pushCount_evOps .io evs

/-- a mid-stream end of input (slice / iterator / `io::Read`): `IoErr(Eof, n)`, the decoder is
reset, the source is positioned behind the event -/
theorem read_eof {kind : SrcKind} (hk : kind ≠ .eh) (d : Dec) (evs : List Ev) :
    read { kind := kind, dec := d, evs := .eof :: evs } =
      ({ kind := kind, dec := d.reset.1, evs := evs }, .ioErr .eof d.reset.2) := by
  rw [Rdr.read, readLoop_cons_item (x := .ioErr .eof d.reset.2) (by simp [evStep, hk])]; rfl

theorem calls_exhausted {kind : SrcKind} (hk : kind ≠ .eh) (cs : List Call) {d : Dec}
    (h : Dec.IsReset d) :
    (({ kind := kind, dec := d, evs := [] } : Rdr).calls cs).2 =
      cs.map (fun c => view c (.ioErr .eof 0)) := by
  have h0 : d.reset.2 = 0 := by simp [Dec.reset, h.1, h.2.1]
  rw [← idleItem_of_ne hk]
  apply calls_idle
  rw [atEnd_of_ne hk, h0, idleItem_of_ne hk]

/-- nothing in `body` is `None` or a non-blocking would-block; an end-of-input report occurs only
for a mid-stream end of input (`Ev.eof`) -/
theorem body_mem (evs : List Ev) (d : Dec) (x : RItem) (hx : x ∈ body d evs) :
    x ≠ .none ∧ x ≠ .nbWouldBlock ∧ (Ev.eof ∉ evs → ∀ n, x ≠ .ioErr .eof n) ∧
      ∀ n, x = .ioErr .wouldBlock n → n = 0 := by
  have h := trace_mem .io evs d x (body_eq evs d ▸ hx)
  exact ⟨h.1, h.2.1, fun hne => h.2.2.1 (Or.inr hne), h.2.2.2⟩

/-- `next` changes the result of `read` only if it is `IoErr(Eof, 0)`, which becomes `None` -/
theorem view_next_cases (x : RItem) :
    view .next x = x ∨ (x = .ioErr .eof 0 ∧ view .next x = .none) := by
  rcases x with _ | _ | ⟨_ | _ | _, _ | _⟩ | _ | _ | _ <;>
    first | exact Or.inl rfl | exact Or.inr ⟨rfl, rfl⟩

theorem view_next_of_ne {x : RItem} (h : x ≠ .ioErr .eof 0) : view .next x = x :=
  (view_next_cases x).resolve_right fun h' => h h'.1

/-- without a mid-stream end of input `next` presents the results of `read` unchanged.
(The hypothesis is needed: `body d [.eof]` is `[IoErr(Eof, 0)]` for a new decoder `d`, and `next`
turns that into `None`.) -/
theorem map_view_next_body (d : Dec) (evs : List Ev) (hne : Ev.eof ∉ evs) :
    (body d evs).map (view .next) = body d evs := by
  rw [List.map_congr_left, List.map_id]
  intro x hx
  exact view_next_of_ne ((body_mem evs d x hx).2.2.1 hne 0)

theorem nexts_io (d : Dec) (evs : List Ev) (k : Nat) :
    (({ kind := .io, dec := d, evs := evs } : Rdr).calls (List.replicate k .next)).2 =
      padTo .none (results d evs) k := by
  rw [nexts_trace (by simp), results, nextBody, body_eq, endDec_eq]

/-- remove the `WouldBlock` and `Interrupted` events; it is `Rdr.strip .io` (`strip_eq`) and the
same recursion as `C11.strip` of Props/C11.lean (`C11.strip_eq`), which C11 is stated with -/
def strip : List Ev → List Ev
  | [] => []
  | .byte b :: evs => .byte b :: strip evs
  | .wouldBlock :: evs => strip evs
  | .interrupted :: evs => strip evs
  | .other :: evs => .other :: strip evs
  | .eof :: evs => .eof :: strip evs

theorem strip_eq (evs : List Ev) : strip evs = Rdr.strip .io evs := by
  induction evs with
  | nil => rfl
  | cons e evs ih => cases e <;> simp [strip, Rdr.strip, evOps, ih] <;> rfl

theorem bytesOf_strip (evs : List Ev) : bytesOf (strip evs) = bytesOf evs := by
  induction evs with
  | nil => rfl
  | cons e evs ih => cases e <;> simp [strip, bytesOf, ih]

theorem endDec_strip (d : Dec) (evs : List Ev) : endDec d (strip evs) = endDec d evs := by
  rw [endDec_eq, endDec_eq, strip_eq, decAfter_strip]

theorem dropWB_eofItems (r : Nat) : dropWB (C10.eofItems r) = C10.eofItems r := by
  unfold C10.eofItems; split <;> simp [dropWB]

theorem body_strip (evs : List Ev) (d : Dec) : body d (strip evs) = dropWB (body d evs) := by
  rw [body_eq, body_eq, strip_eq, trace_strip]

theorem view_next_eq_wb (x : RItem) :
    view .next x = .ioErr .wouldBlock 0 ↔ x = .ioErr .wouldBlock 0 := by
  rcases view_next_cases x with h | ⟨rfl, h⟩ <;> rw [h]
  exact ⟨fun h => (by cases h), fun h => (by cases h)⟩

theorem dropWB_map_view_next (l : List RItem) :
    dropWB (l.map (view .next)) = (dropWB l).map (view .next) := by
  unfold dropWB
  rw [List.filter_map]
  congr 1
  apply List.filter_congr
  intro x _
  by_cases hx : x = .ioErr .wouldBlock 0
  · simp [hx, view]
  · have hv : view .next x ≠ .ioErr .wouldBlock 0 := fun h => hx ((view_next_eq_wb x).1 h)
    simp [hx, hv]

theorem count_wb_map_view_next (l : List RItem) :
    (l.map (view .next)).count (RItem.ioErr .wouldBlock 0) = l.count (RItem.ioErr .wouldBlock 0) := by
  induction l with
  | nil => rfl
  | cons x l ih =>
    rw [List.map_cons, List.count_cons, List.count_cons, ih]
    by_cases hx : x = .ioErr .wouldBlock 0
    · simp [hx, view]
    · have hv : view .next x ≠ .ioErr .wouldBlock 0 := fun h => hx ((view_next_eq_wb x).1 h)
      simp [hx, hv]

theorem nextBody_strip (d : Dec) (evs : List Ev) :
    nextBody d (strip evs) = dropWB (nextBody d evs) := by
  unfold nextBody; rw [body_strip, dropWB_map_view_next]

theorem results_strip (d : Dec) (evs : List Ev) :
    results d (strip evs) = dropWB (results d evs) := by
  unfold results
  rw [nextBody_strip, endDec_strip, dropWB_append, dropWB_eofItems]

theorem readResults_strip (d : Dec) (evs : List Ev) :
    readResults d (strip evs) = dropWB (readResults d evs) := by
  unfold readResults
  rw [body_strip, endDec_strip, dropWB_append]
  simp [dropWB]

theorem count_wb_results (d : Dec) (evs : List Ev) :
    (results d evs).count (RItem.ioErr .wouldBlock 0) = evs.count .wouldBlock := by
  unfold results C10.eofItems nextBody
  rw [List.count_append, count_wb_map_view_next, body_eq, count_wb_trace]
  split <;> simp

/-- what `next` never returns: a non-blocking would-block, `IoErr(Eof, 0)`, a would-block with a
count; and `None` only for a mid-stream end of input.  `x` is what `next` makes of an item `y` of
`body`: either `y` itself, then the clauses are `body_mem`, or `None` for `y = IoErr(Eof, 0)`. -/
theorem nextBody_mem (d : Dec) (evs : List Ev) (x : RItem) (hx : x ∈ nextBody d evs) :
    (Ev.eof ∉ evs → x ≠ .none) ∧ x ≠ .nbWouldBlock ∧ x ≠ .ioErr .eof 0 ∧
      (Ev.eof ∉ evs → ∀ n, x ≠ .ioErr .eof n) ∧ ∀ n, x = .ioErr .wouldBlock n → n = 0 := by
  unfold nextBody at hx
  obtain ⟨y, hy, rfl⟩ := List.mem_map.1 hx
  have hm := body_mem evs d y hy
  rcases view_next_cases y with h | ⟨rfl, h⟩ <;> rw [h]
  · exact ⟨fun hne => hm.1, hm.2.1, fun hc => (by rw [hc] at h; cases h), hm.2.2.1, hm.2.2.2⟩
  · exact ⟨fun hne => absurd rfl (hm.2.2.1 hne 0), fun hc => (by cases hc), fun hc => (by cases hc),
      fun _ n hc => (by cases hc), fun n hc => (by cases hc)⟩

theorem results_mem (d : Dec) (evs : List Ev) (x : RItem) (hx : x ∈ results d evs) :
    (Ev.eof ∉ evs → x ≠ .none) ∧ x ≠ .nbWouldBlock ∧ x ≠ .ioErr .eof 0 ∧
      ∀ n, x = .ioErr .wouldBlock n → n = 0 := by
  unfold results C10.eofItems at hx
  rcases List.mem_append.1 hx with hx | hx
  · have := nextBody_mem d evs x hx
    exact ⟨this.1, this.2.1, this.2.2.1, this.2.2.2.2⟩
  · split at hx
    · simp at hx
    · next h0 =>
      simp only [List.mem_singleton] at hx
      subst hx
      refine ⟨by simp, by simp, ?_, by simp⟩
      intro hc
      injection hc with _ hc
      exact h0 hc

/-- a `None` among the results of `next` (before the final ones) stems from a mid-stream end of
input: there are at most as many as `Ev.eof` events.  Induction over the events; `h1`: what one
event produces, seen through `next`, contains a `None` only for `Ev.eof`. -/
theorem count_none_body (evs : List Ev) : ∀ d : Dec,
    (nextBody d evs).count RItem.none ≤ evs.count .eof := by
  induction evs with
  | nil => intro d; simp [nextBody, body]
  | cons e evs ih =>
    intro d
    have h1 : ((evStep .io d e).2.map (view .next)).count RItem.none ≤ [e].count .eof := by
      cases e with
      | byte b =>
        show ((outItem (d.push b).2).map (view .next)).count _ ≤ _
        cases (d.push b).2 <;> simp [outItem, view]
      | eof => cases h : d.reset.2 <;> simp [evStep, view, h]
      | _ => simp [evStep, view]
    have h2 : ((body (evStep .io d e).1 evs).map (view .next)).count RItem.none ≤ evs.count .eof :=
      ih (evStep .io d e).1
    rw [nextBody, body_eq, trace, List.map_append, List.count_append, ← body_eq, List.count_cons]
    rw [List.count_cons, List.count_nil, Nat.zero_add] at h1
    omega
theorem count_none_results (d : Dec) (evs : List Ev) :
    (results d evs).count RItem.none ≤ evs.count .eof := by
  unfold results C10.eofItems
  rw [List.count_append]
  have := count_none_body evs d
  split <;> simp <;> omega

theorem results_length_le (d : Dec) (evs : List Ev) : (results d evs).length ≤ evs.length + 1 := by
  have := trace_length_le .io evs d
  unfold results C10.eofItems nextBody
  rw [List.length_append, List.length_map, body_eq]
  split <;> simp <;> omega

theorem countP_wb (l : List RItem) :
    l.countP (fun a => decide ¬decide (a ≠ RItem.ioErr .wouldBlock 0) = true) =
      l.count (RItem.ioErr .wouldBlock 0) := by
  rw [List.count_eq_countP]; congr 1; funext a
  by_cases h : a = RItem.ioErr .wouldBlock 0 <;> simp [h]

theorem dropWB_replicate_of_ne {x : RItem} (hx : x ≠ .ioErr .wouldBlock 0) (n : Nat) :
    dropWB (List.replicate n x) = List.replicate n x := by
  unfold dropWB
  rw [List.filter_eq_self]; intro a ha; rw [List.eq_of_mem_replicate ha]; simpa using hx

/-- Padding with `None`, then erasing would-blocks.  With `W` would-blocks in `T`, the first `k`
other results among the first `k + W` elements of the padded list are `T` without its would-blocks,
padded: a prefix of length `k + W` holds `k` other results if the list has only `W` would-blocks
(`take_filter_take`). -/
theorem dropWB_padTo_none (T : List RItem) (k : Nat) :
    (dropWB (padTo .none T (k + T.count (RItem.ioErr .wouldBlock 0)))).take k =
      padTo .none (dropWB T) k := by
  have hc : (T ++ List.replicate (k + T.count (RItem.ioErr .wouldBlock 0)) RItem.none).countP
      (fun a => decide ¬decide (a ≠ RItem.ioErr .wouldBlock 0) = true) =
        T.count (RItem.ioErr .wouldBlock 0) := by
    rw [countP_wb, List.count_append, List.count_replicate]; simp
  refine (take_filter_take _ (T ++ List.replicate _ .none) k _ (Nat.le_of_eq hc)).trans ?_
  show (dropWB (T ++ _)).take k = (dropWB T ++ List.replicate k RItem.none).take k
  rw [dropWB_append, dropWB_replicate_of_ne (by simp), List.take_append, List.take_append,
    List.take_replicate, List.take_replicate]
  congr 2
  omega

/-- the same with would-blocks as padding, which are erased too: only `T` counts -/
theorem dropWB_padTo_wb (T : List RItem) (k : Nat) :
    (dropWB (padTo (RItem.ioErr .wouldBlock 0) T (k + T.count (RItem.ioErr .wouldBlock 0)))).take k =
      (dropWB T).take k := by
  rw [padTo_eq_take_append, dropWB_append, show dropWB (List.replicate _ (RItem.ioErr .wouldBlock 0)) = [] by simp [dropWB], List.append_nil]
  exact take_filter_take _ T k _ (Nat.le_of_eq (countP_wb T))

theorem endDec_inv (evs : List Ev) {d : Dec} (h : Dec.Inv d) : Dec.Inv (endDec d evs) :=
  Dec.run_inv _ h

theorem view_next_eof (n : Nat) : view .next (.ioErr .eof n) = midEof n := by
  cases n <;> rfl

/-- Events `pre`, then `e` = an "other" error or a mid-stream end of input, then `post`, on a new
reader: what `pre` produces, the one result of `e` (`body … [e]`), then what a new reader produces on
`post`: the decoder `e` leaves behind is as good as new. -/
theorem body_cut_fresh (cap : Option Nat) (pre post : List Ev) {e : Ev}
    (he : e = .other ∨ e = .eof) :
    body (Dec.fresh cap) (pre ++ e :: post) =
        body (Dec.fresh cap) pre ++ body (endDec (Dec.fresh cap) pre) [e] ++
          body (Dec.fresh cap) post ∧
      (endDec (Dec.fresh cap) (pre ++ e :: post)).reset.2 = (endDec (Dec.fresh cap) post).reset.2 := by
  have he' : evOps .io e = [.reset] := by rcases he with rfl | rfl <;> rfl
  obtain ⟨h1, h2⟩ := trace_cut_fresh .io cap pre post he'
  simp only [body_eq, endDec_eq, h1, (Dec.reset_equiv h2).1, trace, List.append_nil, and_self]

theorem results_cut_fresh (cap : Option Nat) (pre post : List Ev) {e : Ev}
    (he : e = .other ∨ e = .eof) :
    results (Dec.fresh cap) (pre ++ e :: post) =
      nextBody (Dec.fresh cap) pre ++ (body (endDec (Dec.fresh cap) pre) [e]).map (view .next) ++
        results (Dec.fresh cap) post := by
  obtain ⟨h1, h2⟩ := body_cut_fresh cap pre post he
  simp only [results, nextBody, h1, h2, List.map_append, List.append_assoc]

theorem readResults_cut_fresh (cap : Option Nat) (pre post : List Ev) {e : Ev}
    (he : e = .other ∨ e = .eof) :
    readResults (Dec.fresh cap) (pre ++ e :: post) =
      body (Dec.fresh cap) pre ++ body (endDec (Dec.fresh cap) pre) [e] ++
        readResults (Dec.fresh cap) post := by
  obtain ⟨h1, h2⟩ := body_cut_fresh cap pre post he
  simp only [readResults, h1, h2, List.append_assoc]

theorem results_bytes (s : List UInt8) {d : Dec} (h : Dec.Inv d) :
    results d (s.map Ev.byte) = d.allRItems s := by
  unfold results nextBody
  rw [body_eq, endDec_eq]
  exact trace_bytes_next .io s h

/-- of events none of which resets the decoder exactly the bytes reach it (over an `io::Read`:
no "other" error and no mid-stream end of input; elsewhere no `Interrupted` either) -/
theorem strip_eq_bytes (kind : SrcKind) (evs : List Ev) (h : ∀ e ∈ evs, evOps kind e ≠ [.reset]) :
    Rdr.strip kind evs = (bytesOf evs).map Ev.byte := by
  induction evs with
  | nil => rfl
  | cons e evs ih =>
    have ih := ih fun x hx => h x (List.mem_cons_of_mem _ hx)
    have he := h e List.mem_cons_self
    rw [Rdr.strip_cons]
    cases e with
    | byte b => rw [if_neg (show evOps kind (.byte b) ≠ [] from List.cons_ne_nil _ _), ih]; rfl
    | wouldBlock => rw [if_pos (show evOps kind .wouldBlock = [] from rfl)]; exact ih
    | interrupted =>
      by_cases hk : kind = .io
      · rw [if_pos (show evOps kind .interrupted = [] from if_pos hk)]; exact ih
      · exact absurd (show evOps kind .interrupted = [.reset] from if_neg hk) he
    | other => exact absurd rfl he
    | eof => exact absurd rfl he

end RF

end Sml
