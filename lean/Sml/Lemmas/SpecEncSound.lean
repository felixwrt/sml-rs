import Sml.Lemmas.SpecEncNum
/-
  Canonical encoder, soundness for every grammar symbol above the integers.  Every `enc_sound_*`
  says: for EVERY setting of the encoding choices, the bytes produced by the encoder for a
  well-formed value are related to that value by the grammar of Sml/Spec/Grammar.lean.  Only the
  introduction rules `Gram.mk_*` and the constructors of `EncSeq` are used.  The `enc_sound*` are
  theorems of property C03 (see Props/C03Enc.lean), hence the namespace.
-/
namespace Sml.C03
open Sml Sml.Spec

theorem enc_sound_octet (c : FieldChoice) (v : Bytes) (h : WFOctet v) :
    EncOctet v (encOctet c v) :=
  Gram.mk_octet _ v (enc_sound_tlf _ _ _ (by decide) (by simpa [WFOctet] using h))

theorem enc_sound_bool (b : Bool) : EncBool b (encBool b) := by
  cases b <;> exact Gram.mk_bool [0x42] _ rfl

theorem enc_sound_opt {α : Type} {E : α → Bytes → Prop} {enc : α → Bytes} {P : α → Prop}
    (hs : ∀ a, P a → E a (enc a)) (hh : ∀ a, P a → (enc a).head? ≠ some 0x01) (o : Option α)
    (h : WFOpt P o) : EncOpt E o (encOpt enc o) := by
  cases o with
  | none => exact Gram.mk_none E
  | some a => exact Gram.mk_some (hs a h) (hh a h)

/-- optional octet strings, absent, present, present and empty -/
theorem enc_sound_opt_octet (c : FieldChoice) (o : Option Bytes) (h : WFOpt WFOctet o) :
    EncOpt EncOctet o (encOptOctet c o) := by
  cases o with
  | none => exact Gram.mk_none _
  | some v =>
    refine Gram.mk_some (enc_sound_octet _ v h) ?_
    show (encTlf _ _ _ ++ v).head? ≠ _
    refine SpecEnc.encTlf_head _ _ _ _ (Or.inr ?_) (fun _ => h)
    by_cases he : v.isEmpty = true
    · right
      simp only [he, if_true]
      omega
    · left
      intro hl
      exact he (by simpa using List.eq_nil_of_length_eq_zero hl)

theorem enc_sound_optU8 (c : FieldChoice) (o : Option Int) (h : WFOpt (InUns 1) o) :
    EncOpt (EncUnsigned 1) o (encOpt (encUnsigned c 1) o) :=
  enc_sound_opt (fun a ha => SpecEnc.enc_sound_unsigned c 1 a (by decide) ha)
    (fun _ _ => SpecEnc.encTlf_head_of_ne _ _ _ (by decide)) o h

theorem enc_sound_optI8 (c : FieldChoice) (o : Option Int) (h : WFOpt (InInt 1) o) :
    EncOpt (EncSigned 1) o (encOpt (encSigned c 1) o) :=
  enc_sound_opt (fun a ha => SpecEnc.enc_sound_signed c 1 a (by decide) ha)
    (fun _ _ => SpecEnc.encTlf_head_of_ne _ _ _ (by decide)) o h

theorem inUns_one : InUns 1 1 := by unfold InUns; decide

/-- list form and vendor workaround -/
theorem enc_sound_time (c : FieldChoice) (t : Time) (h : WFTime t) : EncTime t (encTime c t) := by
  cases t with
  | secIndex v =>
    simp only [encTime]
    have hv : InUns 4 v := h
    by_cases hw : c.timeWorkaround = true
    · rw [if_pos hw]
      obtain ⟨ht, d1, d2⟩ := SpecEnc.uns_field c.tlfExtra v 4 hv.1 (SpecEnc.inUns_toNat hv) (by decide)
      exact Gram.mk_time_workaround v _ _ (d1 ▸ ht) d1 d2
    · rw [if_neg hw]
      exact Gram.mk_time_list _ _ _ v
        (enc_sound_tlf _ _ _ (by decide) (by simp [u32Max]))
        (SpecEnc.enc_sound_unsigned c 1 1 (by decide) inUns_one)
        (SpecEnc.enc_sound_unsigned c 4 v (by decide) hv)

theorem encTime_head (c : FieldChoice) (t : Time) : (encTime c t).head? ≠ some 0x01 := by
  cases t with
  | secIndex v =>
    simp only [encTime]
    split
    · exact SpecEnc.encTlf_head_of_ne _ _ _ (by decide)
    · rw [List.append_assoc]
      exact SpecEnc.encTlf_head_of_ne _ _ _ (by decide)

theorem enc_sound_optTime (c : FieldChoice) (o : Option Time) (h : WFOpt WFTime o) :
    EncOpt EncTime o (encOpt (encTime c) o) :=
  enc_sound_opt (fun a ha => enc_sound_time c a ha) (fun a _ => encTime_head c a) o h

theorem tlf_list (extra n : Nat) (h : n ≤ u32Max) :
    EncTlf ⟨.listOf, n⟩ (encTlf extra .listOf n) :=
  enc_sound_tlf _ _ _ (by decide) (by simpa using h)

/-- every value type; integers in every width of their class -/
theorem enc_sound_value (c : FieldChoice) (v : Value) (h : WFValue v) :
    EncValue v (encValue c v) := by
  cases v with
  | bool b => exact enc_sound_bool b
  | bytes bs => exact enc_sound_octet c bs h
  | int size x =>
    obtain ⟨hs, hx⟩ : size ∈ widths ∧ InInt size x := h
    obtain ⟨a1, a2, a3, a4, a5⟩ := SpecEnc.class_int c size x hs hx
    exact Gram.mk_value_int size x _ _ a1 a2 a3 a4 a5
  | uns size x =>
    obtain ⟨hs, hx⟩ : size ∈ widths ∧ InUns size x := h
    obtain ⟨a1, a2, a3, a4, a5⟩ := SpecEnc.class_uns c size x hs hx
    exact Gram.mk_value_uns size x _ _ a1 a2 a3 a4 a5
  | list l =>
    cases l with
    | time t =>
      have ht : WFTime t := h
      exact Gram.mk_value_list _ _ _ (tlf_list _ 2 (by simp [u32Max]))
        (Gram.mk_listType _ _ t (SpecEnc.enc_sound_unsigned c 1 1 (by decide) inUns_one)
          (enc_sound_time c t ht))

theorem enc_sound_status (c : FieldChoice) (s : Status) (h : WFStatus s) :
    EncStatus s (encStatus c s) := by
  cases s with
  -- `EncStatus (.status s v)` and `encStatus c (.status s v)` are by definition `EncValue` and
  -- `encValue` at `.uns s v`
  | status size x => exact enc_sound_value c (.uns size x) h

theorem enc_sound_optStatus (c : FieldChoice) (o : Option Status) (h : WFOpt WFStatus o) :
    EncOpt EncStatus o (encOpt (encStatus c) o) :=
  enc_sound_opt (fun a ha => enc_sound_status c a ha) (fun ⟨_, _⟩ _ => SpecEnc.encTlf_head_of_ne _ _ _ (by decide)) o h

theorem enc_sound_entry (c : EntryChoices) (x : ListEntry) (h : WFEntry x) :
    EncListEntry x (encEntry c x) := by
  obtain ⟨h1, h2, h3, h4, h5, h6, h7⟩ := h
  exact Gram.mk_listEntry (tlf_list _ 7 (by simp [u32Max])) (enc_sound_octet _ _ h1)
    (enc_sound_optStatus _ _ h2) (enc_sound_optTime _ _ h3) (enc_sound_optU8 _ _ h4)
    (enc_sound_optI8 _ _ h5) (enc_sound_value _ _ h6) (enc_sound_opt_octet _ _ h7)

theorem enc_sound_entries : ∀ (xs : List ListEntry) (c : Nat → EntryChoices),
    (∀ e ∈ xs, WFEntry e) → EncSeq EncListEntry xs (encEntries c xs) := by
  intro xs
  induction xs with
  | nil => intro c _; exact .nil
  | cons x xs ih =>
    intro c h
    exact .cons (enc_sound_entry (c 0) x (h x (by simp)))
      (ih _ (fun e he => h e (by simp [he])))

theorem enc_sound_valList (ct : FieldChoice) (c : Nat → EntryChoices) (xs : List ListEntry)
    (hl : xs.length ≤ u32Max) (h : ∀ e ∈ xs, WFEntry e) : EncValList xs (encValList ct c xs) :=
  Gram.mk_valList (tlf_list _ _ hl) (enc_sound_entries xs c h)

theorem enc_sound_open (c : OpenChoices) (x : OpenResponse) (h : WFOpen x) :
    EncOpenResponse x (encOpen c x) := by
  obtain ⟨h1, h2, h3, h4, h5, h6⟩ := h
  exact Gram.mk_openResponse (tlf_list _ 6 (by simp [u32Max])) (enc_sound_opt_octet _ _ h1)
    (enc_sound_opt_octet _ _ h2) (enc_sound_octet _ _ h3) (enc_sound_octet _ _ h4)
    (enc_sound_optTime _ _ h5) (enc_sound_optU8 _ _ h6)

theorem enc_sound_close (c : CloseChoices) (x : CloseResponse) (h : WFClose x) :
    EncCloseResponse x (encClose c x) :=
  Gram.mk_closeResponse (tlf_list _ 1 (by simp [u32Max])) (enc_sound_opt_octet _ _ h)

theorem enc_sound_getList (c : GetListChoices) (x : GetListResponse) (h : WFGetList x) :
    EncGetListResponse x (encGetList c x) := by
  obtain ⟨h1, h2, h3, h4, ⟨h5, h5'⟩, h6, h7⟩ := h
  exact Gram.mk_getListResponse (tlf_list _ 7 (by simp [u32Max])) (enc_sound_opt_octet _ _ h1)
    (enc_sound_octet _ _ h2) (enc_sound_opt_octet _ _ h3) (enc_sound_optTime _ _ h4)
    (enc_sound_valList _ _ _ h5 h5') (enc_sound_opt_octet _ _ h6) (enc_sound_optTime _ _ h7)

theorem inUns_natCast {size n : Nat} (h : n < 2 ^ (8 * size)) : InUns size (n : Int) :=
  ⟨Int.natCast_nonneg n, Int.ofNat_lt.2 h⟩

theorem enc_sound_body (c : MessageChoices) (b : MessageBody) (h : WFBody b) :
    EncMessageBody b (encBody c b) := by
  cases b with
  | openResponse x =>
    exact Gram.mk_body_open (tlf_list _ 2 (by simp [u32Max]))
      (SpecEnc.enc_sound_unsigned _ 4 0x0101 (by decide) (inUns_natCast (n := 0x0101) (by decide)))
      (enc_sound_open _ x h)
  | closeResponse x =>
    exact Gram.mk_body_close (tlf_list _ 2 (by simp [u32Max]))
      (SpecEnc.enc_sound_unsigned _ 4 0x0201 (by decide) (inUns_natCast (n := 0x0201) (by decide)))
      (enc_sound_close _ x h)
  | getListResponse x =>
    exact Gram.mk_body_getList (tlf_list _ 2 (by simp [u32Max]))
      (SpecEnc.enc_sound_unsigned _ 4 0x0701 (by decide) (inUns_natCast (n := 0x0701) (by decide)))
      (enc_sound_getList _ x h)

theorem enc_sound_messageHead (c : MessageChoices) (m : Message) (h : WFMessage m) :
    EncMessageHead m (encMessageHead c m) := by
  obtain ⟨h1, h2, h3, h4⟩ := h
  exact Gram.mk_messageHead (tlf_list _ 6 (by simp [u32Max])) (enc_sound_octet _ _ h1)
    (SpecEnc.enc_sound_unsigned _ 1 _ (by decide) h2) (SpecEnc.enc_sound_unsigned _ 1 _ (by decide) h3)
    (enc_sound_body _ _ h4)

/-- the message with its checksum: `encMessage` appends `swap16 (crc16 head)` as an Unsigned16, a
    16-bit value whatever the head (the CRC stays opaque) -/
theorem enc_sound_message (c : MessageChoices) (m : Message) (h : WFMessage m) :
    EncMessage m (encMessage c m) :=
  Gram.mk_message (enc_sound_messageHead c m h)
    (SpecEnc.enc_sound_unsigned c.crc 2 _ (by decide) (inUns_natCast (UInt16.toNat_lt _)))

theorem enc_sound_messages : ∀ (ms : List Message) (c : Choices),
    (∀ m ∈ ms, WFMessage m) → EncSeq EncMessage ms (encMessages c ms) := by
  intro ms
  induction ms with
  | nil => intro c _; exact .nil
  | cons m ms ih =>
    intro c h
    exact .cons (enc_sound_message (c 0) m (h m (by simp)))
      (ih _ (fun e he => h e (by simp [he])))

/-- every well-formed file has, for every setting of the encoding choices, an encoding in the
    grammar: the one computed by the encoder -/
theorem enc_sound (c : Choices) (F : File) (h : WFFile F) : EncFile F (encFile c F) :=
  enc_sound_messages F.messages c h

end Sml.C03
