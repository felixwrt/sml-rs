import Sml.Model.ArrayBufLit
import Sml.Lemmas.ArrayBuf
/-
  C18, clause "a failing operation leaves the contents unchanged", as a theorem about
  `Sml/Model/ArrayBufLit.lean`, the statement-by-statement transcription of
  `impl Buffer for ArrayBuf<N>` whose result carries the post-state of `*self` also in the
  `Err(OutOfMemory)` outcome.  Three mutants with the statements reordered violate the theorems on
  concrete inputs.
-/

namespace Sml.C18
open Sml

def lit (a : ArrayBuf) : BOp → LitRes
  | .push b => ArrayBufLit.push a b
  | .extend s => ArrayBufLit.extendFromSlice a s
  | .truncate k => ArrayBufLit.truncate a k
  | .clear => ArrayBufLit.clear a

def LitRes.tag : LitRes → Tag
  | .ok _ => .ok
  | .oom _ => .oom
  | .panic _ => .panic

theorem lit_push_eq (a : ArrayBuf) (b : UInt8) :
    (ArrayBufLit.push a b).toBufRes = a.push b := by
  unfold ArrayBufLit.push ArrayBuf.push ArrayBufLit.indexSet
  by_cases h1 : a.numElements = a.N
  · simp [h1, LitRes.toBufRes]
  · by_cases h2 : a.numElements < a.buffer.length
    · simp [h1, h2, LitRes.toBufRes]
    · simp [h1, h2, LitRes.toBufRes]

theorem lit_extend_cases (a : ArrayBuf) (s : List UInt8) :
    (a.numElements + s.length ≤ a.N ∧
      ArrayBufLit.extendFromSlice a s =
        .ok { buffer := a.buffer.take a.numElements ++ s ++
                a.buffer.drop (a.numElements + s.length),
              numElements := a.numElements + s.length }) ∨
    (a.N < a.numElements + s.length ∧ ArrayBufLit.extendFromSlice a s = .oom a) := by
  unfold ArrayBufLit.extendFromSlice ArrayBufLit.sliceFrom ArrayBufLit.sliceTo
    ArrayBufLit.copyFromSlice
  by_cases h1 : a.numElements + s.length > a.N
  · exact .inr ⟨h1, if_pos h1⟩
  · have hN : a.N = a.buffer.length := rfl
    have h2 : a.numElements ≤ a.buffer.length := by omega
    have h3 : s.length ≤ (a.buffer.drop a.numElements).length := by
      rw [List.length_drop]; omega
    have h4 : ((a.buffer.drop a.numElements).take s.length).length = s.length := by
      rw [List.length_take]; omega
    exact .inl ⟨by omega, by simp only [h1, h2, h3, h4, if_true, if_false, List.drop_drop]⟩

theorem lit_extend_eq (a : ArrayBuf) (s : List UInt8) :
    (ArrayBufLit.extendFromSlice a s).toBufRes = a.extendFromSlice s := by
  unfold ArrayBuf.extendFromSlice
  have hN : a.N = a.buffer.length := rfl
  rcases lit_extend_cases a s with ⟨h, e⟩ | ⟨h, e⟩
  · rw [e, if_neg (by omega), if_pos (by omega)]; rfl
  · rw [e, if_pos h]; rfl

/-- Every literal operation agrees with the corresponding operation of `Sml/Model/Buf.lean`
    once the post-state of the `Err` outcome is forgotten: same tag, same post-state on `ok`,
    same panic site.  Holds for every state (`WF` is not needed). -/
theorem lit_eq_model (a : ArrayBuf) (op : BOp) : (lit a op).toBufRes = ArrayBuf.apply a op := by
  cases op with
  | push b => exact lit_push_eq a b
  | extend s => exact lit_extend_eq a s
  | truncate k => rfl
  | clear => rfl

theorem lit_fromIterLoop_eq (xs : List UInt8) : ∀ a : ArrayBuf,
    (ArrayBufLit.fromIterLoop a xs).toBufRes = ArrayBuf.fromIter.go a xs := by
  induction xs with
  | nil => intro a; rfl
  | cons x xs ih =>
    intro a
    have h := lit_push_eq a x
    simp only [ArrayBufLit.fromIterLoop, ArrayBuf.fromIter.go]
    cases hp : ArrayBufLit.push a x <;> rw [hp] at h <;> simp only [LitRes.toBufRes] at h <;>
      simp only [← h]
    · exact ih _
    all_goals rfl

/-- `FromIterator`: the literal transcription agrees with `ArrayBuf.fromIter` -/
theorem lit_fromIter_eq (n : Nat) (xs : List UInt8) :
    (ArrayBufLit.fromIter n xs).toBufRes = ArrayBuf.fromIter n xs :=
  lit_fromIterLoop_eq xs (ArrayBuf.new n)

theorem tag_eq_of_toBufRes {r : LitRes} {m : BufRes ArrayBuf} (h : r.toBufRes = m) :
    LitRes.tag r = (match m with | .ok _ => Tag.ok | .oom => Tag.oom | .panic _ => Tag.panic) := by
  subst h; cases r <;> rfl

theorem push_oom_unchanged {a a' : ArrayBuf} {b : UInt8}
    (h : ArrayBufLit.push a b = .oom a') : a' = a := by
  unfold ArrayBufLit.push at h
  split at h
  · cases h; rfl
  · split at h <;> cases h

theorem extend_oom_unchanged {a a' : ArrayBuf} {s : List UInt8}
    (h : ArrayBufLit.extendFromSlice a s = .oom a') : a' = a := by
  rcases lit_extend_cases a s with ⟨_, h1⟩ | ⟨_, h1⟩ <;> rw [h1] at h <;> cases h
  rfl

/-- If a literal operation returns `Err(OutOfMemory)`, the state it leaves behind is the state
    it started from - the backing array (all `N` bytes, also those behind `num_elements`) and
    `num_elements`.  No well-formedness assumption. -/
theorem oom_unchanged {a a' : ArrayBuf} {op : BOp} (h : lit a op = .oom a') : a' = a := by
  cases op with
  | push b => exact push_oom_unchanged h
  | extend s => exact extend_oom_unchanged h
  | truncate k => cases h
  | clear => cases h

/-- in particular the visible contents, the length and the capacity are unchanged -/
theorem oom_unchanged_abs {a a' : ArrayBuf} {op : BOp} (h : lit a op = .oom a') :
    abs a' = abs a ∧ a'.numElements = a.numElements ∧ a'.N = a.N ∧ a'.deref = a.deref := by
  rw [oom_unchanged h]; exact ⟨rfl, rfl, rfl, rfl⟩

/-- `truncate` and `clear` cannot fail -/
theorem truncate_clear_ok (a : ArrayBuf) :
    (∀ k, lit a (.truncate k) = .ok (a.truncate k)) ∧ lit a .clear = .ok a.clear :=
  ⟨fun _ => rfl, rfl⟩

/-- `from_iter` never returns `Err` (it unwraps) -/
theorem fromIterLoop_ne_oom (xs : List UInt8) : ∀ a a' : ArrayBuf,
    ArrayBufLit.fromIterLoop a xs ≠ .oom a' := by
  induction xs with
  | nil => intro a a' h; cases h
  | cons x xs ih =>
    intro a a' h
    simp only [ArrayBufLit.fromIterLoop] at h
    split at h
    · exact ih _ _ h
    · cases h
    · cases h

theorem lit_push_WF {a : ArrayBuf} (h : WF a) (b : UInt8) :
    (a.numElements < a.N ∧
      ArrayBufLit.push a b =
        .ok { buffer := a.buffer.set a.numElements b, numElements := a.numElements + 1 }) ∨
    (a.numElements = a.N ∧ ArrayBufLit.push a b = .oom a) := by
  unfold WF at h
  unfold ArrayBufLit.push ArrayBufLit.indexSet ArrayBuf.N
  by_cases h1 : a.numElements = a.buffer.length
  · right; simp [h1]
  · left
    have h2 : a.numElements < a.buffer.length := by omega
    simp [h1, h2]

/-- On a well-formed buffer the literal operation and the operation of the model succeed together,
    with the same state, or fail together, the literal one leaving the state it started from. -/
theorem lit_eq_model_WF {a : ArrayBuf} (h : WF a) (op : BOp) :
    (∃ a', lit a op = .ok a' ∧ ArrayBuf.apply a op = .ok a' ∧ WF a' ∧ a'.N = a.N) ∨
    (lit a op = .oom a ∧ ArrayBuf.apply a op = .oom) := by
  have he := lit_eq_model a op
  rcases apply_cases h op with ⟨a', g, g2, g3, _⟩ | ⟨g, _⟩ <;> rw [g] at he <;>
    cases hr : lit a op <;> rw [hr] at he <;> cases he
  · exact .inl ⟨_, rfl, g, g2, g3⟩
  · rw [oom_unchanged hr]; exact .inr ⟨rfl, g⟩

/-- From a well-formed buffer (`num_elements ≤ N`) no literal operation reaches a panic site
    (array index util.rs:128, the two range slicings and the `copy_from_slice` length check of
    util.rs:146). -/
theorem no_panic_lit {a : ArrayBuf} (h : WF a) (op : BOp) (s : String) : lit a op ≠ .panic s := by
  intro hp
  rcases lit_eq_model_WF h op with ⟨_, g, _⟩ | ⟨g, _⟩ <;> rw [g] at hp <;> cases hp

/-- `extend_from_slice` cannot panic even on an ill-formed buffer: the capacity check of line 143
    implies both range checks of line 146 -/
theorem extend_never_panics (a : ArrayBuf) (x : List UInt8) (s : String) :
    ArrayBufLit.extendFromSlice a x ≠ .panic s := by
  intro hp
  rcases lit_extend_cases a x with ⟨_, h1⟩ | ⟨_, h1⟩ <;> (rw [h1] at hp; cases hp)

theorem lit_ok_WF {a a' : ArrayBuf} {op : BOp} (h : WF a) (ho : lit a op = .ok a') :
    WF a' ∧ a'.N = a.N := by
  rcases lit_eq_model_WF h op with ⟨_, g, _, g2, g3⟩ | ⟨g, _⟩ <;> rw [g] at ho <;> cases ho
  exact ⟨g2, g3⟩

/-- one step of a literal run: the result tag, the state before the operation and the state the
    operation left behind (for `oom` this is the state CARRIED BY the result, not assumed equal) -/
structure LitStep where
  tag : Tag
  pre : ArrayBuf
  post : ArrayBuf
  deriving Repr, DecidableEq

/-- Run a sequence of operations with the literal transcription.  After `Err(OutOfMemory)` the run
    continues from the state the failing operation left behind.  A panic ends the run. -/
def litRun (a : ArrayBuf) : List BOp → List LitStep
  | [] => []
  | op :: ops =>
    match lit a op with
    | .ok a' => ⟨.ok, a, a'⟩ :: litRun a' ops
    | .oom a' => ⟨.oom, a, a'⟩ :: litRun a' ops
    | .panic _ => [⟨.panic, a, a⟩]

theorem oom_unchanged_run_from (ops : List BOp) : ∀ (a : ArrayBuf),
    ∀ st ∈ litRun a ops, st.tag = Tag.oom → st.post = st.pre := by
  induction ops with
  | nil => intro a st hst; cases hst
  | cons op ops ih =>
    intro a st hst htag
    simp only [litRun] at hst
    cases hr : lit a op <;> rw [hr] at hst <;> rcases List.mem_cons.1 hst with rfl | hst
    · cases htag
    · exact ih _ st hst htag
    · exact oom_unchanged hr
    · exact ih _ st hst htag
    · cases htag
    · cases hst

/-- Along every operation sequence from the empty `ArrayBuf<N>`: after every failing operation
    the representation (backing array and `num_elements`) and therefore the visible contents and
    the `Deref` result are those before it. -/
theorem oom_unchanged_run (N : Nat) (ops : List BOp) :
    ∀ st ∈ litRun (ArrayBuf.new N) ops, st.tag = Tag.oom →
      st.post = st.pre ∧ abs st.post = abs st.pre ∧ st.post.deref = st.pre.deref := by
  intro st hst htag
  have := oom_unchanged_run_from ops (ArrayBuf.new N) st hst htag
  rw [this]; exact ⟨rfl, rfl, rfl⟩

/-- the literal run, projected to (tag, state after the step), IS the run of `Sml/Lemmas/ArrayBuf.lean`
    (whose `oom` case keeps the state by construction), whenever the start state is well formed;
    so all C18 theorems about `ArrayBuf.run` speak about the literal transcription -/
theorem litRun_eq_run (ops : List BOp) : ∀ (a : ArrayBuf), WF a →
    (litRun a ops).map (fun st => (st.tag, st.post)) = ArrayBuf.run a ops := by
  induction ops with
  | nil => intro a _; rfl
  | cons op ops ih =>
    intro a h
    simp only [litRun, ArrayBuf.run]
    rcases lit_eq_model_WF h op with ⟨a', h1, h2, h3, _⟩ | ⟨h1, h2⟩
    · rw [h1, h2]; simp only [List.map_cons, ih a' h3]
    · rw [h1, h2]; simp only [List.map_cons, ih a h]

/-- every step of a literal run starts where the previous one ended -/
theorem litRun_chain (ops : List BOp) : ∀ (a : ArrayBuf),
    (litRun a ops).map (·.pre) = ((a :: (litRun a ops).map (·.post)).take (litRun a ops).length) := by
  induction ops with
  | nil => intro a; rfl
  | cons op ops ih =>
    intro a
    simp only [litRun]
    cases lit a op with
    | ok a' => simp only [List.map_cons, List.length_cons, List.take_succ_cons]; rw [ih a']
    | oom a' => simp only [List.map_cons, List.length_cons, List.take_succ_cons]; rw [ih a']
    | panic s => rfl

/-- no step of a literal run from the empty buffer panics; the run has one step per operation and
    every state in it is well formed with capacity `N` -/
theorem no_panic_lit_run (N : Nat) (ops : List BOp) :
    (litRun (ArrayBuf.new N) ops).length = ops.length ∧
    ∀ st ∈ litRun (ArrayBuf.new N) ops,
      st.tag ≠ Tag.panic ∧ WF st.post ∧ st.post.N = N := by
  have hrun := litRun_eq_run ops (ArrayBuf.new N) (WF_new N)
  obtain ⟨_, _, h3, _, h5⟩ := run_refines_from ops (WF_new N)
  constructor
  · rw [← h3, ← hrun, List.length_map]
  · intro st hst
    have hm : (st.tag, st.post) ∈ ArrayBuf.run (ArrayBuf.new N) ops := by
      rw [← hrun]; exact List.mem_map.2 ⟨st, hst, rfl⟩
    exact N_new N ▸ h5 _ hm

-- a failing `extend_from_slice` and a failing `push`, with stale bytes behind `num_elements`
example : lit ⟨[1, 2, 9, 9], 2⟩ (.extend [5, 6, 7]) = .oom ⟨[1, 2, 9, 9], 2⟩ := by decide
example : lit ⟨[1, 2, 3], 3⟩ (.push 7) = .oom ⟨[1, 2, 3], 3⟩ := by decide
-- successful operations overwrite exactly the addressed bytes
example : lit ⟨[1, 2, 9, 9, 9], 2⟩ (.extend [5, 6]) = .ok ⟨[1, 2, 5, 6, 9], 4⟩ := by decide
example : lit ⟨[1, 2, 9], 2⟩ (.push 7) = .ok ⟨[1, 2, 7], 3⟩ := by decide
example : lit ⟨[1, 2, 9], 3⟩ (.truncate 1) = .ok ⟨[1, 2, 9], 1⟩ := by decide
-- the panic sites are real: an ill-formed state (`num_elements > N`) reaches util.rs:128
example : lit ⟨[1, 2], 3⟩ (.push 7) = .panic "util.rs:128 index out of bounds" := rfl
-- a run with two failing steps; the hypotheses of `oom_unchanged_run` are met twice
example : (litRun (ArrayBuf.new 3) [.extend [1, 2], .extend [3, 4], .push 5, .push 6, .clear]).map
    (fun st => (st.tag, st.post)) =
    [(.ok, ⟨[1, 2, 0], 2⟩), (.oom, ⟨[1, 2, 0], 2⟩), (.ok, ⟨[1, 2, 5], 3⟩), (.oom, ⟨[1, 2, 5], 3⟩),
     (.ok, ⟨[1, 2, 5], 0⟩)] := by decide
example : ArrayBufLit.fromIter 3 [1, 2, 3] = .ok ⟨[1, 2, 3], 3⟩ := by decide
example : ArrayBufLit.fromIter 3 [1, 2, 3, 4] = .panic "util.rs:117 unwrap on OutOfMemory" := rfl

/-- MUTANT of `extend_from_slice`: copies the part of `other` that fits and only then reports
    `Err(OutOfMemory)`:
```
let fit = other.len().min(N - self.num_elements);
self.buffer[self.num_elements..][..fit].copy_from_slice(&other[..fit]);
if self.num_elements + other.len() > N { return Err(OutOfMemory); }
self.num_elements += other.len();
Ok(())
``` -/
def extendBad (self : ArrayBuf) (other : List UInt8) : LitRes :=
  let fit := min other.length (self.N - self.numElements)
  match ArrayBufLit.sliceFrom self.buffer self.numElements with
  | Option.none => .panic "range start index out of range"
  | some (front, view1) =>
  match ArrayBufLit.sliceTo view1 fit with
  | Option.none => .panic "range end index out of range"
  | some (view2, back) =>
  match ArrayBufLit.copyFromSlice view2 (other.take fit) with
  | Option.none => .panic "copy_from_slice length mismatch"
  | some view2' =>
    let self1 : ArrayBuf := { self with buffer := front ++ view2' ++ back }
    if self1.numElements + other.length > self1.N then
      .oom self1
    else
      .ok { self1 with numElements := self1.numElements + other.length }

/-- the mutant agrees with the real operation whenever the slice fits ... -/
example : extendBad ⟨[1, 2, 9, 9, 9], 2⟩ [5, 6] = lit ⟨[1, 2, 9, 9, 9], 2⟩ (.extend [5, 6]) := by
  decide

/-- ... and has the same tag when it does not fit, the same `num_elements`, even the same visible
    contents - but it has written behind `num_elements`: -/
example : extendBad ⟨[1, 2, 9, 9], 2⟩ [5, 6, 7] = .oom ⟨[1, 2, 5, 6], 2⟩ := by decide

/-- `oom_unchanged` is FALSE for the mutant -/
example : ¬ ∀ (a a' : ArrayBuf) (s : List UInt8), extendBad a s = .oom a' → a' = a := by
  intro h
  have h1 : extendBad ⟨[1, 2, 9, 9], 2⟩ [5, 6, 7] = .oom ⟨[1, 2, 5, 6], 2⟩ := by decide
  exact absurd (h _ _ _ h1) (by decide)

/-- MUTANT of `extend_from_slice`: the capacity check literally moved behind the copy
```
self.buffer[self.num_elements..][..other.len()].copy_from_slice(other);
if self.num_elements + other.len() > N { return Err(OutOfMemory); }
``` -/
def extendLate (self : ArrayBuf) (other : List UInt8) : LitRes :=
  match ArrayBufLit.sliceFrom self.buffer self.numElements with
  | Option.none => .panic "range start index out of range"
  | some (front, view1) =>
  match ArrayBufLit.sliceTo view1 other.length with
  | Option.none => .panic "range end index out of range"
  | some (view2, back) =>
  match ArrayBufLit.copyFromSlice view2 other with
  | Option.none => .panic "copy_from_slice length mismatch"
  | some view2' =>
    let self1 : ArrayBuf := { self with buffer := front ++ view2' ++ back }
    if self1.numElements + other.length > self1.N then
      .oom self1
    else
      .ok { self1 with numElements := self1.numElements + other.length }

/-- `no_panic_lit` / `lit_eq_model` are FALSE for this mutant: it panics where the real code
    returns `Err(OutOfMemory)`, on a well-formed buffer -/
example : WF ⟨[1, 2, 9, 9], 2⟩ ∧
    extendLate ⟨[1, 2, 9, 9], 2⟩ [5, 6, 7] = .panic "range end index out of range" ∧
    ArrayBuf.apply ⟨[1, 2, 9, 9], 2⟩ (.extend [5, 6, 7]) = .oom := ⟨by decide, rfl, rfl⟩

/-- MUTANT of `push`: write and increment first, check afterwards
```
self.buffer[self.num_elements] = b;   // (index made total with `get_mut` so that it cannot panic)
self.num_elements += 1;
if self.num_elements > N { Err(OutOfMemory) } else { Ok(()) }
``` -/
def pushBad (self : ArrayBuf) (b : UInt8) : LitRes :=
  let self1 : ArrayBuf := { self with buffer := self.buffer.set self.numElements b }
  let self2 : ArrayBuf := { self1 with numElements := self1.numElements + 1 }
  if self2.numElements > self2.N then .oom self2 else .ok self2

/-- `oom_unchanged` is FALSE for this mutant, also for the visible length -/
example : pushBad ⟨[1, 2, 3], 3⟩ 7 = .oom ⟨[1, 2, 3], 4⟩ ∧
    (⟨[1, 2, 3], 4⟩ : ArrayBuf) ≠ ⟨[1, 2, 3], 3⟩ := by decide

end Sml.C18
