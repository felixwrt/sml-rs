import Sml.Lemmas.TlfNum
import Sml.Model.Streaming
/-
  The field parsers (Model/Parser.lean, Complete.lean, Streaming.lean) return a suffix of their
  input after at least `k` bytes and never reach a modelled Rust panic site: `Adv k p`, lemmas
  `adv_<parser>`.  `Post Q p`: every value that `p` returns satisfies `Q` (`post_<parser>`).
-/
namespace Sml

def Consumes (k : Nat) (i r : Bytes) : Prop := ∃ n, k ≤ n ∧ n ≤ i.length ∧ r = i.drop n

theorem Consumes.refl (i : Bytes) : Consumes 0 i i := ⟨0, Nat.le_refl _, Nat.zero_le _, rfl⟩

theorem Consumes.trans {a b : Nat} {i r r' : Bytes} (h1 : Consumes a i r) (h2 : Consumes b r r') :
    Consumes (a + b) i r' := by
  obtain ⟨n, hn1, hn2, rfl⟩ := h1
  obtain ⟨m, hm1, hm2, rfl⟩ := h2
  refine ⟨n + m, by omega, ?_, by rw [List.drop_drop]⟩
  simp only [List.length_drop] at hm2
  omega

theorem Consumes.mono {a b : Nat} {i r : Bytes} (h : Consumes a i r) (hb : b ≤ a) :
    Consumes b i r := by
  obtain ⟨n, hn1, hn2, rfl⟩ := h
  exact ⟨n, by omega, hn2, rfl⟩

theorem Consumes.length_le {k : Nat} {i r : Bytes} (h : Consumes k i r) :
    r.length + k ≤ i.length := by
  obtain ⟨n, hn1, hn2, rfl⟩ := h
  simp only [List.length_drop]
  omega

theorem Consumes.length_lt {k : Nat} {i r : Bytes} (h : Consumes (k + 1) i r) :
    r.length < i.length := by
  have := h.length_le
  omega

theorem Consumes.suffix {k : Nat} {i r : Bytes} (h : Consumes k i r) : r <:+ i := by
  obtain ⟨n, _, _, rfl⟩ := h
  exact List.drop_suffix _ _

theorem Consumes.cons {k : Nat} {b : UInt8} {i r : Bytes} (h : Consumes k i r) :
    Consumes (k + 1) (b :: i) r := by
  obtain ⟨n, hn1, hn2, rfl⟩ := h
  exact ⟨n + 1, by omega, by simp only [List.length_cons]; omega, by simp⟩

theorem Consumes.drop (i : Bytes) (n : Nat) (h : n ≤ i.length) : Consumes n i (i.drop n) :=
  ⟨n, Nat.le_refl _, h, rfl⟩

/-- C06/C13 (progress): a `Good` parser leaves a proper suffix `input.drop n`, `0 < n ≤ |input|` -/
theorem Consumes.exists_pos {i r : Bytes} (h : Consumes 1 i r) :
    ∃ n, 0 < n ∧ r = i.drop n ∧ n ≤ i.length := by
  obtain ⟨n, hn1, hn2, h3⟩ := h
  exact ⟨n, by omega, h3, hn2⟩

def Adv {α : Type} (k : Nat) (p : Bytes → PRes α) : Prop :=
  (∀ i v r, p i = .ok (v, r) → Consumes k i r) ∧ (∀ i s, p i ≠ .error (.panic s))

abbrev Good {α : Type} (p : Bytes → PRes α) : Prop := Adv 1 p

theorem Adv.mono {α : Type} {a b : Nat} {p : Bytes → PRes α} (h : Adv a p) (hb : b ≤ a) :
    Adv b p :=
  ⟨fun i v r hr => (h.1 i v r hr).mono hb, h.2⟩

theorem Adv.ok {α : Type} {k : Nat} {p : Bytes → PRes α} (h : Adv k p) {i : Bytes} {v : α}
    {r : Bytes} (hr : p i = .ok (v, r)) : Consumes k i r := h.1 i v r hr

theorem Adv.error_ne_panic {α : Type} {k : Nat} {p : Bytes → PRes α} (h : Adv k p) {i : Bytes}
    {e : PErr} (he : p i = .error e) (s : String) : e ≠ .panic s := fun hs => h.2 i s (hs ▸ he)

/-- `Good` spelt out: a proper suffix of the input on success, never a panic -/
theorem Good.iff {α : Type} (p : Bytes → PRes α) :
    Good p ↔ (∀ i v r, p i = .ok (v, r) → ∃ n, 0 < n ∧ n ≤ i.length ∧ r = i.drop n) ∧
      (∀ i s, p i ≠ .error (.panic s)) := Iff.rfl

/-- what `Adv k p` says about the one result `x = p i` -/
def AdvAt {α : Type} (k : Nat) (i : Bytes) (x : PRes α) : Prop :=
  (∀ v r, x = .ok (v, r) → Consumes k i r) ∧ ∀ s, x ≠ .error (.panic s)

theorem Adv.at {α : Type} {k : Nat} {p : Bytes → PRes α} (h : Adv k p) (i : Bytes) :
    AdvAt k i (p i) := ⟨h.1 i, h.2 i⟩

theorem Adv.of_at {α : Type} {k : Nat} {p : Bytes → PRes α} (h : ∀ i, AdvAt k i (p i)) : Adv k p :=
  ⟨fun i => (h i).1, fun i => (h i).2⟩

namespace AdvAt
variable {α β : Type} {k a : Nat} {i r : Bytes}

theorem ok {v : α} (h : Consumes k i r) : AdvAt k i (.ok (v, r)) :=
  ⟨fun _ _ e => by cases e; exact h, fun _ e => nomatch e⟩

theorem pure {v : α} : AdvAt 0 i (.ok (v, i)) := ok (Consumes.refl i)

theorem error {e : PErr} (he : ∀ s, e ≠ .panic s := by simp) : AdvAt k i (.error e : PRes α) :=
  ⟨fun _ _ h => (nomatch h), fun s h => he s (Except.error.inj h)⟩

theorem of_error {x : PRes α} {e : PErr} {j : Bytes} (hx : AdvAt a i x) (h : x = .error e) :
    AdvAt k j (.error e : PRes β) :=
  error fun s hs => hx.2 s (hs ▸ h)

/-- after a successful call that consumed `a` bytes, what follows has to consume `k - a` -/
theorem step {x : PRes α} {v : α} {y : PRes β} (hx : AdvAt a i x) (h : x = .ok (v, r))
    (hy : AdvAt (k - a) r y) : AdvAt k i y :=
  ⟨fun w r' e => ((hx.1 v r h).trans (hy.1 w r' e)).mono (by omega), hy.2⟩

theorem ite {c : Prop} [Decidable c] {x y : PRes α} (hx : c → AdvAt k i x) (hy : ¬c → AdvAt k i y) :
    AdvAt k i (if c then x else y) := by
  by_cases h : c
  · rw [if_pos h]; exact hx h
  · rw [if_neg h]; exact hy h

end AdvAt

/-
  `Adv.bind` is one step `match p input with | .error e => .error e | .ok (x, input) => …` of a
  record parser.  Every model function has its own matcher constant, which the unifier unfolds
  only with `smartUnfolding false` and only in terms without metavariables: hence that option, the
  ascription `(… : Adv k _)` around each term, and the explicit conditions, errors and values in it.
-/

theorem Adv.pure {α : Type} (v : α) : Adv 0 (fun i => (.ok (v, i) : PRes α)) :=
  Adv.of_at fun _ => .pure

theorem Adv.error {α : Type} {k : Nat} (e : PErr) (he : ∀ s, e ≠ .panic s := by simp) :
    Adv k (fun _ => (.error e : PRes α)) :=
  Adv.of_at fun _ => .error he

theorem Adv.ite {α : Type} {k : Nat} (c : Prop) [Decidable c] {p q : Bytes → PRes α}
    (hp : c → Adv k p) (hq : ¬c → Adv k q) : Adv k (fun i => if c then p i else q i) :=
  Adv.of_at fun i => .ite (fun h => (hp h).at i) fun h => (hq h).at i

theorem Adv.bind {α β : Type} {k a : Nat} {p : Bytes → PRes α} {f : α → Bytes → PRes β}
    (hp : Adv a p) (hf : ∀ x, Adv (k - a) (f x)) :
    Adv k (fun i => match p i with
      | .error e => .error e
      | .ok (x, r) => f x r) := Adv.of_at fun i => by
  split
  · exact (hp.at i).of_error ‹_›
  · exact (hp.at i).step ‹_› ((hf _).at _)

def Post {α : Type} (Q : α → Prop) (p : Bytes → PRes α) : Prop := ∀ i v r, p i = .ok (v, r) → Q v

theorem Post.pure {α : Type} {Q : α → Prop} {v : α} (h : Q v) : Post Q (fun i => .ok (v, i)) :=
  fun _ _ _ e => by cases e; exact h

theorem Post.error {α : Type} {Q : α → Prop} (e : PErr) : Post Q (fun _ => (.error e : PRes α)) :=
  fun _ _ _ h => nomatch h

theorem Post.ite {α : Type} {Q : α → Prop} (c : Prop) [Decidable c] {p q : Bytes → PRes α}
    (hp : c → Post Q p) (hq : ¬c → Post Q q) : Post Q (fun i => if c then p i else q i) := by
  by_cases h : c
  · simpa only [if_pos h] using hp h
  · simpa only [if_neg h] using hq h

theorem Post.bind {α β : Type} {Q₁ : α → Prop} {Q : β → Prop} {p : Bytes → PRes α}
    {f : α → Bytes → PRes β} (hp : Post Q₁ p) (hf : ∀ x, Q₁ x → Post Q (f x)) :
    Post Q (fun i => match p i with
      | .error e => .error e
      | .ok (x, r) => f x r) := by
  intro i v r h
  dsimp only at h
  split at h
  · cases h
  · exact hf _ (hp _ _ _ ‹_›) _ _ _ h

theorem Post.seq {α β : Type} {Q : β → Prop} (p : Bytes → PRes α) {f : α → Bytes → PRes β}
    (hf : ∀ x, Post Q (f x)) :
    Post Q (fun i => match p i with
      | .error e => .error e
      | .ok (x, r) => f x r) :=
  Post.bind (Q₁ := fun _ => True) (fun _ _ _ _ => trivial) fun x _ => hf x

section
set_option smartUnfolding false

theorem adv_mapRes {α β : Type} {k : Nat} {p : Bytes → PRes α} (f : α → β) (hp : Adv k p) :
    Adv k (fun i => mapRes f (p i)) :=
  (hp.bind fun x => (Adv.pure (f x)).mono (by omega) : Adv k _)

theorem Post.map {α β : Type} {Q : β → Prop} {p : Bytes → PRes α} (f : α → β)
    (hp : Post (fun a => Q (f a)) p) : Post Q (fun i => mapRes f (p i)) :=
  (hp.bind fun _ h => Post.pure h : Post Q _)

theorem Post.viaTlf {α : Type} {Q : α → Prop} {check : Tlf → Bool} {withTlf : Bytes → Tlf → PRes α}
    (hw : ∀ tlf, Post Q (fun i => withTlf i tlf)) : Post Q (parseViaTlf check withTlf) :=
  (Post.seq parseTlf fun tlf => Post.ite (!check tlf) (fun _ => Post.error .tlfMismatch) fun _ => hw tlf :
    Post Q _)

theorem adv_parseTlf : Good parseTlf :=
  ⟨fun i v r h => by
    obtain ⟨n, h1, h2, h3⟩ := C12.tlf_rest i v r h
    exact ⟨n, h2, h1, h3⟩, C12.tlf_no_panic⟩

theorem adv_parseViaTlf {α : Type} {check : Tlf → Bool} {withTlf : Bytes → Tlf → PRes α}
    (hw : ∀ tlf, check tlf = true → Adv 0 (fun i => withTlf i tlf)) :
    Good (parseViaTlf check withTlf) :=
  (adv_parseTlf.bind fun tlf => Adv.ite (!check tlf) (fun _ => Adv.error .tlfMismatch)
    fun h => hw tlf (by simpa using h) : Adv 1 _)

theorem adv_parseOpt {α : Type} {p : Bytes → PRes α} (hp : Good p) : Good (parseOpt p) :=
  Adv.of_at fun i => by
  unfold parseOpt
  split
  · exact .ok (Consumes.refl _).cons
  · split
    · exact (hp.at _).of_error ‹_›
    · exact (hp.at _).step ‹_› .pure

theorem adv_takeByte : Good takeByte := Adv.of_at fun i => by
  cases i with
  | nil => exact .error
  | cons b rest => exact .ok (Consumes.refl _).cons

theorem adv_takeN (n : Nat) : Adv n (fun i => takeN i n) := Adv.of_at fun i =>
  .ite (fun _ => .error) fun h => .ok (Consumes.drop _ _ (by omega))

/-- `numCheck` guards `parseNum`: the two panic sites `num.rs:18` (`bytes[0]` of an empty slice)
    and `num.rs:31` (`SIZE - len`) are unreachable -/
theorem adv_parseNum (signed : Bool) (size : Nat) (tlf : Tlf)
    (h : numCheck signed size tlf = true) : Adv 1 (fun i => parseNum signed size i tlf) := by
  obtain ⟨_, h1, _⟩ := (C12.numCheck_iff _ _ _).1 h
  refine Adv.of_at fun i => ?_
  rw [C12.parseNum_exact signed size tlf i h]
  exact .ite (fun _ => .error) fun hl => .ok ((Consumes.drop _ _ (by omega)).mono h1)

theorem adv_parseInt (signed : Bool) (size : Nat) : Good (parseInt signed size) :=
  adv_parseViaTlf fun tlf h => (adv_parseNum signed size tlf h).mono (by omega)

theorem adv_parseBoolWith (tlf : Tlf) : Adv 1 (fun i => parseBoolWith i tlf) :=
  (adv_takeByte.bind fun b => Adv.pure (decide (b > 0)) : Adv 1 _)

theorem adv_parseOctet : Good parseOctet :=
  adv_parseViaTlf fun tlf _ => (adv_takeN tlf.len).mono (Nat.zero_le _)

theorem adv_parseTime : Good parseTime :=
  adv_parseViaTlf fun tlf _ =>
    Adv.ite _
      (fun _ => ((adv_takeN 4).bind fun bytes =>
        Adv.pure (Time.secIndex (beNat bytes)) : Adv 0 _))
      fun _ => ((adv_parseInt false 1).bind fun tag =>
        Adv.ite (tag = 1)
          (fun _ => ((adv_parseInt false 4).bind fun x =>
            Adv.pure (Time.secIndex x) : Adv 0 _))
          fun _ => Adv.error .unexpectedVariant : Adv 0 _)

theorem adv_parseListTypeWith (tlf : Tlf) : Adv 0 (fun i => parseListTypeWith i tlf) :=
  ((adv_parseInt false 1).bind fun tag =>
    Adv.ite (tag = 1)
      (fun _ => (adv_parseTime.bind fun x => Adv.pure (ListType.time x) : Adv 0 _))
      fun _ => Adv.error .unexpectedVariant : Adv 0 _)

theorem adv_parseValue : Good parseValue :=
  adv_parseViaTlf fun tlf _ =>
    have num (signed size) (f : Int → Value) (h : numCheck signed size tlf = true) :
        Adv 0 (fun i => mapRes f (parseNum signed size i tlf)) :=
      adv_mapRes f ((adv_parseNum signed size tlf h).mono (Nat.zero_le _))
    -- a term along the `if` cascade: `split` on the goal re-simplifies the whole remaining cascade
    -- at every level (cost doubles per level)
    Adv.ite _ (fun _ => adv_mapRes _ ((adv_parseBoolWith tlf).mono (Nat.zero_le _))) fun _ =>
    Adv.ite _ (fun _ => adv_mapRes _ ((adv_takeN tlf.len).mono (Nat.zero_le _))) fun _ =>
    Adv.ite _ (num _ _ _) fun _ => Adv.ite _ (num _ _ _) fun _ =>
    Adv.ite _ (num _ _ _) fun _ => Adv.ite _ (num _ _ _) fun _ =>
    Adv.ite _ (num _ _ _) fun _ => Adv.ite _ (num _ _ _) fun _ =>
    Adv.ite _ (num _ _ _) fun _ => Adv.ite _ (num _ _ _) fun _ =>
    Adv.ite _ (fun _ => adv_mapRes _ (adv_parseListTypeWith tlf)) fun _ =>
    Adv.error .tlfMismatch

theorem adv_parseStatus : Good parseStatus :=
  adv_parseViaTlf fun tlf _ =>
    have num (size) (f : Int → Status) (h : numCheck false size tlf = true) :
        Adv 0 (fun i => mapRes f (parseNum false size i tlf)) :=
      adv_mapRes f ((adv_parseNum false size tlf h).mono (Nat.zero_le _))
    Adv.ite _ (num _ _) fun _ => Adv.ite _ (num _ _) fun _ => Adv.ite _ (num _ _) fun _ =>
    Adv.ite _ (num _ _) fun _ => Adv.error .tlfMismatch

theorem adv_parseListEntryWith (tlf : Tlf) : Adv 7 (fun i => parseListEntryWith i tlf) :=
  (adv_parseOctet.bind fun objName =>
    (adv_parseOpt adv_parseStatus).bind fun status =>
    (adv_parseOpt adv_parseTime).bind fun valTime =>
    (adv_parseOpt (adv_parseInt false 1)).bind fun unit =>
    (adv_parseOpt (adv_parseInt true 1)).bind fun scaler =>
    adv_parseValue.bind fun value =>
    (adv_parseOpt adv_parseOctet).bind fun valueSignature =>
    Adv.pure ({ objName, status, valTime, unit, scaler, value, valueSignature } : ListEntry) :
    Adv 7 _)

/-- type-length field and seven fields -/
theorem adv_parseListEntry8 : Adv 8 parseListEntry :=
  (adv_parseTlf.bind fun tlf => Adv.ite (!listCheck 7 tlf) (fun _ => Adv.error .tlfMismatch)
    fun _ => adv_parseListEntryWith tlf : Adv 8 _)

theorem adv_parseOpenResponse : Good parseOpenResponse :=
  adv_parseViaTlf fun _ _ =>
    ((adv_parseOpt adv_parseOctet).bind fun codepage =>
      (adv_parseOpt adv_parseOctet).bind fun clientId =>
      adv_parseOctet.bind fun reqFileId =>
      adv_parseOctet.bind fun serverId =>
      (adv_parseOpt adv_parseTime).bind fun refTime =>
      (adv_parseOpt (adv_parseInt false 1)).bind fun smlVersion =>
      Adv.pure ({ codepage, clientId, reqFileId, serverId, refTime, smlVersion } : OpenResponse) :
      Adv 0 _)

theorem adv_parseCloseResponse : Good parseCloseResponse :=
  adv_parseViaTlf fun _ _ =>
    ((adv_parseOpt adv_parseOctet).bind fun globalSignature =>
      Adv.pure ({ globalSignature } : CloseResponse) : Adv 0 _)

theorem adv_parseEndOfMsg : Good parseEndOfMsg :=
  (adv_takeByte.bind fun b => Adv.ite (b ≠ 0x00) (fun _ => Adv.error .msgEndMismatch)
    fun _ => Adv.pure () : Adv 1 _)

theorem adv_parseMsgHeader : Adv 4 parseMsgHeader :=
  (adv_parseTlf.bind fun tlf =>
    Adv.ite (tlf.ty ≠ .listOf ∨ tlf.len ≠ 6) (fun _ => Adv.error .tlfMismatch) fun _ =>
    adv_parseOctet.bind fun tid =>
    (adv_parseInt false 1).bind fun groupNo =>
    (adv_parseInt false 1).bind fun abortOnError => Adv.pure (tid, groupNo, abortOnError) :
    Adv 4 _)

/-- the trailer consumes at least two bytes (CRC field and end marker); the subtraction
    `input_orig.len() - input.len()` (complete.rs:83, streaming.rs:51) cannot overflow when the
    remaining input is not longer than the message start -/
theorem advAt_parseMsgTrailer {orig i : Bytes} (hle : i.length ≤ orig.length) :
    AdvAt 2 i (parseMsgTrailer orig i) := by
  unfold parseMsgTrailer
  rw [if_neg (by omega)]
  split
  · exact ((adv_parseInt false 2).at _).of_error ‹_›
  refine ((adv_parseInt false 2).at _).step ‹_› ?_
  split
  · exact (adv_parseEndOfMsg.at _).of_error ‹_›
  refine (adv_parseEndOfMsg.at _).step ‹_› ?_
  exact .ite (fun _ => .error) fun _ => .pure

theorem parseMsgTrailer_ok (orig i : Bytes) (v : Unit) (r : Bytes)
    (h : parseMsgTrailer orig i = .ok (v, r)) : Consumes 2 i r := by
  by_cases hle : i.length ≤ orig.length
  · exact (advAt_parseMsgTrailer hle).1 v r h
  · rw [parseMsgTrailer, if_pos (by omega)] at h; cases h

theorem adv_parseEntries8 : ∀ n, Adv (8 * n) (parseEntries n)
  | 0 => Adv.pure _
  | n + 1 => (adv_parseListEntry8.bind fun x => (adv_parseEntries8 n).bind fun xs =>
      (Adv.pure (x :: xs)).mono (by omega) : Adv (8 * (n + 1)) _)

theorem post_parseEntries : ∀ n, Post (·.length = n) (parseEntries n)
  | 0 => Post.pure rfl
  | n + 1 => (Post.seq parseListEntry fun x => (post_parseEntries n).bind fun xs h =>
      Post.pure (v := x :: xs) (congrArg (· + 1) h) : Post _ _)

theorem adv_parseList : Good parseList :=
  adv_parseViaTlf fun tlf _ => (adv_parseEntries8 tlf.len).mono (Nat.zero_le _)

theorem adv_parseGetListResponse : Good parseGetListResponse :=
  adv_parseViaTlf fun _ _ =>
    ((adv_parseOpt adv_parseOctet).bind fun clientId =>
      adv_parseOctet.bind fun serverId =>
      (adv_parseOpt adv_parseOctet).bind fun listName =>
      (adv_parseOpt adv_parseTime).bind fun actSensorTime =>
      adv_parseList.bind fun valList =>
      (adv_parseOpt adv_parseOctet).bind fun listSignature =>
      (adv_parseOpt adv_parseTime).bind fun actGatewayTime =>
      Adv.pure (⟨clientId, serverId, listName, actSensorTime, valList, listSignature,
        actGatewayTime⟩ : GetListResponse) : Adv 0 _)

theorem adv_parseMessageBody : Good parseMessageBody :=
  adv_parseViaTlf fun tlf _ =>
    (((adv_parseInt false 4).bind fun tag =>
      Adv.ite (tag = 0x0101) (fun _ => adv_mapRes MessageBody.openResponse adv_parseOpenResponse) fun _ =>
      Adv.ite (tag = 0x0201) (fun _ => adv_mapRes MessageBody.closeResponse adv_parseCloseResponse) fun _ =>
      Adv.ite (tag = 0x0701) (fun _ => adv_mapRes MessageBody.getListResponse adv_parseGetListResponse)
        fun _ => Adv.error .unexpectedVariant : Adv 2 _)).mono (by omega)

/-- `Message::parse` consumes at least 7 bytes and never panics: the remaining input handed to
    the trailer is a suffix of the message start -/
theorem adv_parseMessage : Adv 7 parseMessage := Adv.of_at fun i => by
  simp only [parseMessage]
  split
  · exact (adv_parseMsgHeader.at _).of_error ‹_›
  rename_i h1
  split
  · exact (adv_parseMessageBody.at _).of_error ‹_›
  rename_i r h2
  have hc := (adv_parseMsgHeader.ok h1).trans (adv_parseMessageBody.ok h2)
  have ht : AdvAt 2 r (parseMsgTrailer i r) :=
    advAt_parseMsgTrailer (by have := hc.length_le; omega)
  split
  · exact ht.of_error ‹_›
  · exact .ok ((hc.trans (ht.1 _ _ ‹_›)).mono (by omega))

theorem adv_parseGlrStart : Good parseGlrStart :=
  adv_parseViaTlf fun tlf _ =>
    ((adv_parseOpt adv_parseOctet).bind fun clientId =>
      adv_parseOctet.bind fun serverId =>
      (adv_parseOpt adv_parseOctet).bind fun listName =>
      (adv_parseOpt adv_parseTime).bind fun actSensorTime =>
      adv_parseTlf.bind fun tlf =>
      Adv.ite (tlf.ty ≠ .listOf) (fun _ => Adv.error .tlfMismatch) fun _ =>
      Adv.pure ({ clientId, serverId, listName, actSensorTime, numVals := tlf.len } :
        GetListResponseStart) : Adv 0 _)

theorem adv_parseGlrEnd : Adv 2 parseGlrEnd :=
  ((adv_parseOpt adv_parseOctet).bind fun listSignature =>
    (adv_parseOpt adv_parseTime).bind fun actGatewayTime =>
    Adv.pure ({ listSignature, actGatewayTime } : GetListResponseEnd) : Adv 2 _)

theorem adv_parseSBody : Good parseSBody :=
  adv_parseViaTlf fun tlf _ =>
    (((adv_parseInt false 4).bind fun tag =>
      Adv.ite (tag = 0x0101) (fun _ => adv_mapRes SBody.openResponse adv_parseOpenResponse) fun _ =>
      Adv.ite (tag = 0x0201) (fun _ => adv_mapRes SBody.closeResponse adv_parseCloseResponse) fun _ =>
      Adv.ite (tag = 0x0701) (fun _ => adv_mapRes SBody.getListResponse adv_parseGlrStart)
        fun _ => Adv.error .unexpectedVariant : Adv 2 _)).mono (by omega)

theorem adv_parseMessageStart : Adv 5 parseMessageStart :=
  (adv_parseMsgHeader.bind fun h => adv_parseSBody.bind fun messageBody =>
    Adv.pure ({ transactionId := h.1, groupNo := h.2.1, abortOnError := h.2.2, messageBody } :
      MessageStart) : Adv 5 _)

end

/-- the list loop with its partial result: the entries parsed before the first failure, and the
    error or the remaining input -/
def entriesRun : Nat → Bytes → List ListEntry × Except PErr Bytes
  | 0, i => ([], .ok i)
  | n + 1, i =>
    match parseListEntry i with
    | .error e => ([], .error e)
    | .ok (x, r) => (x :: (entriesRun n r).1, (entriesRun n r).2)

def outRes {α : Type} (a : α) : Except PErr Bytes → PRes α
  | .error e => .error e
  | .ok r => .ok (a, r)

@[simp] theorem outRes_error {α : Type} (a : α) (e : PErr) :
    outRes a (.error e) = .error e := rfl
@[simp] theorem outRes_ok {α : Type} (a : α) (r : Bytes) : outRes a (.ok r) = .ok (a, r) := rfl

theorem parseEntries_eq_run (n : Nat) : ∀ i,
    parseEntries n i = outRes (entriesRun n i).1 (entriesRun n i).2 := by
  induction n with
  | zero => intro i; rfl
  | succ n ih =>
    intro i
    simp only [parseEntries, entriesRun]
    cases parseListEntry i with
    | error e => rfl
    | ok v =>
      obtain ⟨x, r⟩ := v
      simp only [ih r]
      cases (entriesRun n r).2 <;> rfl

/-- the partial run is a successful shorter loop, followed by the end of the loop or the failing
    entry -/
theorem entriesRun_char (n : Nat) : ∀ i : Bytes, ∃ r,
    parseEntries (entriesRun n i).1.length i = .ok ((entriesRun n i).1, r) ∧
    (((entriesRun n i).2 = .ok r ∧ (entriesRun n i).1.length = n) ∨
     (∃ e, (entriesRun n i).2 = .error e ∧ (entriesRun n i).1.length < n ∧
       parseListEntry r = .error e)) := by
  induction n with
  | zero => intro i; exact ⟨i, rfl, .inl ⟨rfl, rfl⟩⟩
  | succ n ih =>
    intro i
    simp only [entriesRun]
    rcases hp : parseListEntry i with e | ⟨x, r1⟩
    · exact ⟨i, rfl, .inr ⟨e, rfl, Nat.succ_pos _, hp⟩⟩
    · obtain ⟨r, h1, h2⟩ := ih r1
      refine ⟨r, by simp only [List.length_cons, parseEntries, hp, h1], ?_⟩
      rcases h2 with ⟨h2, h3⟩ | ⟨e, h2, h3, h4⟩
      · exact .inl ⟨h2, congrArg (· + 1) h3⟩
      · exact .inr ⟨e, h2, Nat.succ_lt_succ h3, h4⟩

theorem entriesRun_length_le (n : Nat) (i : Bytes) : (entriesRun n i).1.length ≤ n := by
  obtain ⟨r, _, ⟨_, h⟩ | ⟨_, _, h, _⟩⟩ := entriesRun_char n i <;> omega

theorem entriesRun_consumed (n : Nat) (i : Bytes) :
    8 * (entriesRun n i).1.length + (match (entriesRun n i).2 with | .ok r => r.length | .error _ => 0)
      ≤ i.length := by
  obtain ⟨r, h1, h2⟩ := entriesRun_char n i
  have := ((adv_parseEntries8 _).ok h1).length_le
  rcases h2 with ⟨h2, _⟩ | ⟨e, h2, _, _⟩ <;> rw [h2] <;> simp only <;> omega

theorem parseMessages_nil (fuel : Nat) : parseMessages fuel [] = .ok [] := by
  cases fuel <;> rfl

theorem parseMessages_error {fuel : Nat} {b : UInt8} {i : Bytes} {e : PErr}
    (h : parseMessage (b :: i) = .error e) : parseMessages (fuel + 1) (b :: i) = .error e := by
  simp only [parseMessages, h]

theorem parseMessages_ok {fuel : Nat} {b : UInt8} {i r : Bytes} {m : Message}
    (h : parseMessage (b :: i) = .ok (m, r)) :
    parseMessages (fuel + 1) (b :: i) = (parseMessages fuel r).map (m :: ·) := by
  simp only [parseMessages, h]
  cases parseMessages fuel r <;> rfl

/-- the messages the allocating parser has completed (parsed and checksum-verified) before it
    stops; for a successful parse these are all messages (`completedMessages_ok`) -/
def completedMessages : Nat → Bytes → List Message
  | _, [] => []
  | 0, _ :: _ => []
  | fuel + 1, i =>
    match parseMessage i with
    | .error _ => []
    | .ok (m, rest) => m :: completedMessages fuel rest

theorem completedMessages_nil (fuel : Nat) : completedMessages fuel [] = [] := by
  cases fuel <;> rfl

/-- induction along the message loop, over its result and the messages completed; a message
    consumes input, so fuel `≥ |input|` suffices -/
theorem parseMessages_induction {P : Bytes → Except PErr (List Message) → List Message → Prop}
    (nil : P [] (.ok []) [])
    (err : ∀ b i e, parseMessage (b :: i) = .error e → P (b :: i) (.error e) [])
    (ok : ∀ b i m r res cm, parseMessage (b :: i) = .ok (m, r) → P r res cm →
      P (b :: i) (res.map (m :: ·)) (m :: cm)) :
    ∀ fuel i, i.length ≤ fuel → P i (parseMessages fuel i) (completedMessages fuel i) := by
  intro fuel
  induction fuel with
  | zero =>
    intro i hi
    cases i with
    | nil => exact nil
    | cons b i => exact absurd hi (Nat.not_succ_le_zero _)
  | succ fuel ih =>
    intro i hi
    cases i with
    | nil => exact nil
    | cons b i =>
      rcases h : parseMessage (b :: i) with e | ⟨m, r⟩
      · simpa only [parseMessages, completedMessages, h] using err b i e h
      · rw [parseMessages_ok h]
        simp only [completedMessages, h]
        refine ok b i m r _ _ h (ih r ?_)
        have := (adv_parseMessage.ok h).length_le
        simp only [List.length_cons] at hi this
        omega

/-- the fuel of `parseMessages` never runs out when it is at least the input length -/
theorem parseMessages_no_panic (fuel : Nat) (i : Bytes) (hi : i.length ≤ fuel) (s : String) :
    parseMessages fuel i ≠ .error (.panic s) :=
  parseMessages_induction (P := fun _ res _ => res ≠ .error (.panic s)) nofun
    (fun _ _ _ h he => adv_parseMessage.error_ne_panic h s (Except.error.inj he))
    (fun _ _ _ _ res _ _ ih he => by
      cases res with
      | ok _ => cases he
      | error _ => exact ih he) fuel i hi

/-- `parseFile` is the message loop with fuel `|x|` -/
theorem parseFile_ok {x : Bytes} {F : File} :
    parseFile x = .ok F ↔ parseMessages x.length x = .ok F.messages := by
  unfold parseFile
  cases parseMessages x.length x with
  | error e => exact ⟨nofun, nofun⟩
  | ok ms => exact ⟨fun h => by cases h; rfl, fun h => by cases h; rfl⟩

theorem parseFile_error {x : Bytes} {e : PErr} :
    parseFile x = .error e ↔ parseMessages x.length x = .error e := by
  unfold parseFile
  cases parseMessages x.length x with
  | error e' => exact ⟨fun h => by cases h; rfl, fun h => by cases h; rfl⟩
  | ok ms => exact ⟨nofun, nofun⟩

theorem completedMessages_ok (fuel : Nat) (i : Bytes) (hi : i.length ≤ fuel) :
    ∀ ms, parseMessages fuel i = .ok ms → completedMessages fuel i = ms :=
  parseMessages_induction (P := fun _ res cm => ∀ ms, res = .ok ms → cm = ms)
    (fun _ h => Except.ok.inj h) (fun _ _ _ _ _ h => nomatch h)
    (fun _ _ m _ res _ _ ih ms h => by
      cases res with
      | error _ => cases h
      | ok ms' => cases h; rw [ih ms' rfl]) fuel i hi

end Sml
