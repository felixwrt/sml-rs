import Sml.Model.Encode
import Sml.Lemmas.Stuff
import Sml.Lemmas.Buf
/-
  The two transport encoders produce `Spec.frame` (C07).  The buffer encoder is one
  all-or-nothing append of the frame (`encodeBuf_eq`, over `Lemmas/Buf.lean`).  `Enc.*`: the
  iterator encoder phase by phase (`Enc.Emits`, `run_frame`); that no assertion is reached is read
  off the output (`run_new_no_panic`).
-/
namespace Sml

open Spec (stuffFrom stuff ctr padLen ESC frame framePrefix)

open C07

/-- The stuffing loop of the buffer encoder appends `stuffFrom n p` (all or nothing), where the
code's `num_1b` is the specification's run counter. -/
theorem encodeLoop_eq (p : List UInt8) :
    ∀ (buf : Buf) (n : Nat), buf.WF → n < 4 → encodeLoop buf n p = buf.extend (stuffFrom n p) := by
  induction p with
  | nil =>
    intro buf n hwf _
    rw [Spec.stuffFrom_nil, Buf.extend_nil hwf]
    rfl
  | cons b bs ih =>
    intro buf n hwf hn
    unfold encodeLoop
    rw [Buf.push_eq_extend, Spec.stuffFrom_cons, Spec.stuffFrom_singleton, Spec.ctr_singleton,
      List.cons_append, ← List.singleton_append]
    refine Buf.extend_then id fun b1 h1 => ?_
    have hw1 := (Buf.extend_some h1).2.2.2
    -- `num_1b = 4` after the byte: it is `0x1b` and the run counter was 3
    by_cases hb : b = 0x1b
    · by_cases h3 : n = 3
      · subst hb h3
        exact Buf.extend_then id fun b2 h2 => ih b2 0 (Buf.extend_some h2).2.2.2 (by omega)
      · have h4 : ¬ (n + 1 = 4) := by omega
        simp only [hb, h3, h4, if_true, if_false, and_false]
        exact ih b1 (n + 1) hw1 (by omega)
    · simp only [hb, if_false, false_and, Nat.zero_ne_add_one]
      exact ih b1 0 hw1 (by omega)

/-- `Result<B, OutOfMemory>` of an all-or-nothing append -/
def finish (o : Option Buf) : EncRes :=
  match o with
  | none => .oom
  | some b => .ok b.data

/-- The buffer encoder is one all-or-nothing append of the specified frame to an empty buffer. -/
theorem encodeBuf_eq (cap : Option Nat) (p : List UInt8) :
    encodeBuf cap p = finish ((Buf.new cap).extend (frame p)) := by
  rw [frame_eq_parts]
  unfold encodeBuf
  rw [START_eq_spec]
  refine Buf.extend_then finish fun b1 h1 => ?_
  obtain ⟨_, hd1, hl1, hw1⟩ := Buf.extend_some h1
  rw [encodeLoop_eq p b1 0 hw1 (by omega), show stuffFrom 0 p = stuff p from rfl]
  refine Buf.extend_then finish fun b2 h2 => ?_
  obtain ⟨_, hd2, hl2, _⟩ := Buf.extend_some h2
  have hk : (4 - b2.len % 4) % 4 = padLen (Spec.START ++ stuff p).length := by
    rw [hl2, hl1]; simp [Buf.new, Buf.len, padLen]
  simp only [hk]
  have hle := Nat.le_of_lt_succ (Spec.padLen_lt_4 (Spec.START ++ stuff p).length)
  rw [if_neg (Nat.not_lt.2 hle), show ([0, 0, 0] : List UInt8) = List.replicate 3 0 from rfl,
    List.take_replicate, Nat.min_eq_left hle]
  refine Buf.extend_then finish fun b3 h3 => ?_
  refine Buf.extend_then finish fun b4 h4 => ?_
  have hdata : b4.data = framePrefix p := by
    rw [(Buf.extend_some h4).2.1, (Buf.extend_some h3).2.1, hd2, hd1, framePrefix_eq_parts]
    simp [Buf.new, Buf.data]
  simp only [hdata]
  rfl

namespace Enc

theorem run_zero (e : Enc) : e.run 0 = (e, []) := rfl

theorem run_succ (e : Enc) (n : Nat) :
    e.run (n + 1) = ((e.next.1.run n).1, e.next.2 :: (e.next.1.run n).2) := rfl

theorem run_add (m : Nat) : ∀ (e : Enc) (n : Nat),
    e.run (m + n) = (((e.run m).1.run n).1, (e.run m).2 ++ ((e.run m).1.run n).2) := by
  induction m with
  | zero => intro e n; rw [Nat.zero_add]; rfl
  | succ m ih => intro e n; rw [Nat.add_right_comm, run_succ, ih, run_succ]; rfl

/-- the next `|l|` calls of `next` yield the bytes `l` and lead to `e'` -/
def Emits (e : Enc) (l : List UInt8) (e' : Enc) : Prop := e.run l.length = (e', l.map .byte)

theorem Emits.nil (e : Enc) : Emits e [] e := rfl

theorem Emits.cons {e e1 e2 : Enc} {b : UInt8} {l : List UInt8} (h1 : e.next = (e1, .byte b))
    (h2 : Emits e1 l e2) : Emits e (b :: l) e2 := by
  unfold Emits at *
  rw [List.length_cons, run_succ, h1, h2]; rfl

theorem Emits.append {e e1 e2 : Enc} {l m : List UInt8} (h1 : Emits e l e1) (h2 : Emits e1 m e2) :
    Emits e (l ++ m) e2 := by
  unfold Emits at *
  rw [List.length_append, List.map_append, run_add, h1, h2]

/-- what is emitted only depends on the result of the first call -/
theorem Emits.of_next_eq {e e0 e' : Enc} {l : List UInt8} (h : e.next = e0.next) (hl : l ≠ [])
    (h0 : Emits e0 l e') : Emits e l e' := by
  cases l with
  | nil => exact absurd rfl hl
  | cons b l => exact (show e.run (l.length + 1) = e0.run (l.length + 1) by
      rw [run_succ, run_succ, h]).trans h0

/-- states in which the next call reads the payload with run counter `n`:
`LookingForEscape(n)` with `n < 4`, and `Init(8)` / `HandlingEscape(4)` (which fall through to
`LookingForEscape(0)`) -/
def LookLike (st : EState) (n : Nat) : Prop :=
  (st = .look n ∧ n < 4) ∨ (n = 0 ∧ (st = .init 8 ∨ st = .esc 4))

theorem next_of_lookLike {e : Enc} {n : Nat} (h : LookLike e.st n) : e.next = nextLook e n := by
  unfold next
  rcases h with ⟨h, hn⟩ | ⟨rfl, h | h⟩
  · simp [h, hn]
  · simp [h]
  · simp [h]

theorem nextLook_cons {e : Enc} {b : UInt8} {bs : List UInt8} (h : e.rest = b :: bs) (n : Nat) :
    nextLook e n =
      ({ e with rest := bs, padding := e.padding - 1, crc := crcByte e.crc b,
                st := .look ((n + 1) * (if b = 0x1b then 1 else 0)) }, .byte b) := by
  simp [nextLook, h]

/-- `LookingForEscape(4)`: the four escape bytes; the CRC is updated first -/
theorem run_escape (e : Enc) :
    Emits { e with st := .look 4 } ESC { e with crc := crcUpdate e.crc ESC, st := .esc 4 } := by
  simp [Emits, run, next, ESC]

theorem sub_one_sub (a x : UInt8) : a - 1 - x = a - (x + 1) := by
  rw [UInt8.sub_eq_add_neg a (x + 1), UInt8.neg_add, UInt8.sub_eq_add_neg, UInt8.sub_eq_add_neg,
    UInt8.sub_eq_add_neg, UInt8.add_assoc, UInt8.add_comm (-1)]

/-- One payload byte: one call, or five for the fourth `0x1b` of a run; the run counter is that of
the specification, the CRC covers the emitted bytes, `padding` has been bumped once. -/
theorem run_byte {e : Enc} {n : Nat} (hl : LookLike e.st n) {b : UInt8} {bs : List UInt8}
    (hr : e.rest = b :: bs) :
    ∃ e', Emits e (stuffFrom n [b]) e' ∧ LookLike e'.st (ctr n [b]) ∧ e'.rest = bs ∧
      e'.crc = crcUpdate e.crc (stuffFrom n [b]) ∧ e'.padding = e.padding - 1 := by
  have hn : n < 4 := by rcases hl with ⟨_, h⟩ | ⟨h, _⟩ <;> omega
  have hnext := (next_of_lookLike hl).trans (nextLook_cons hr n)
  rw [Spec.stuffFrom_singleton, Spec.ctr_singleton]
  by_cases hb : b = 0x1b
  · subst hb
    simp only [if_true, Nat.mul_one] at hnext
    by_cases h3 : n = 3
    · subst h3
      have hesc := run_escape { e with
        rest := bs, padding := e.padding - 1, crc := crcByte e.crc 0x1b }
      exact ⟨_, .cons hnext hesc, Or.inr ⟨rfl, Or.inr rfl⟩, rfl, rfl, rfl⟩
    · simp only [h3, and_false, if_false, if_true]
      exact ⟨_, .cons hnext (.nil _), Or.inl ⟨rfl, by omega⟩, rfl, rfl, rfl⟩
  · simp only [if_neg hb, Nat.mul_zero] at hnext
    simp only [hb, false_and, if_false]
    exact ⟨_, .cons hnext (.nil _), Or.inl ⟨rfl, by omega⟩, rfl, rfl, rfl⟩

/-- the payload phase; afterwards the source is exhausted and `padding` has been bumped `|q|` times -/
theorem run_payload (q : List UInt8) :
    ∀ (e : Enc) (n : Nat), LookLike e.st n → e.rest = q →
      ∃ e', Emits e (stuffFrom n q) e' ∧ LookLike e'.st (ctr n q) ∧ e'.rest = [] ∧
        e'.crc = crcUpdate e.crc (stuffFrom n q) ∧
        e'.padding = e.padding - UInt8.ofNat q.length := by
  induction q with
  | nil =>
    intro e n hl hr
    exact ⟨e, .nil e, hl, hr, rfl, by simp⟩
  | cons b bs ih =>
    intro e n hl hr
    obtain ⟨e1, h1, hl1, hr1, hc1, hp1⟩ := run_byte hl hr
    obtain ⟨e', h2, hl', hr', hc', hp'⟩ := ih e1 (ctr n [b]) hl1 hr1
    refine ⟨e', ?_, ?_, hr', ?_, ?_⟩
    · rw [Spec.stuffFrom_cons]; exact h1.append h2
    · rw [Spec.ctr_cons]; exact hl'
    · rw [hc', hc1, ← crcUpdate_append, ← Spec.stuffFrom_cons]
    · rw [hp', hp1, List.length_cons, UInt8.ofNat_add, sub_one_sub]; rfl

/-- `End(m)` for `m ≤ 0`, the only arm entered with a state that is not its own: a padding zero
or the first byte of the end escape; the stored state is overwritten, never read -/
theorem nextFin_of_nonpos (e : Enc) {m : Int} (hm : m ≤ 0) :
    nextFin e m = ({ e with st := .fin (m + 1) }, .byte (if m < 0 then 0x00 else 0x1b)) := by
  unfold nextFin
  by_cases h : m < 0
  · rw [if_pos h, if_pos h]
  · rw [if_neg h, if_pos (by omega), if_neg h]

theorem next_fin {e : Enc} {m : Int} (h : e.st = .fin m) : e.next = nextFin e m := by
  unfold next; simp [h]

theorem run_zeros (e : Enc) : ∀ j : Nat,
    Emits { e with st := .fin (-(j : Int)) } (List.replicate j 0) { e with st := .fin 0 }
  | 0 => rfl
  | j + 1 =>
    .cons (by
      rw [next_fin rfl, nextFin, if_pos (by omega),
        show (-((j + 1 : Nat) : Int)) + 1 = -(j : Int) by omega]) (run_zeros e j)

/-- `End(0)` .. `End(7)`: end escape, pad count, CRC -/
theorem run_tail (e : Enc) :
    Emits { e with st := .fin 0 } ([0x1b, 0x1b, 0x1b, 0x1b, 0x1a, e.padGet] ++ le16 (crcFinal e.crc))
      { e with st := .fin 8 } := by
  simp [Emits, run, next, nextFin, le16, padGet]

theorem run_fused {e : Enc} (h : e.st = .fin 8) (k : Nat) :
    e.run k = (e, List.replicate k .none) := by
  induction k with
  | zero => rfl
  | succ k ih =>
    have hstep : e.next = (e, .none) := by
      rw [next_fin h]
      rcases e with ⟨st, c, pd, r⟩
      simp only at h
      subst h
      simp [nextFin]
    rw [run_succ, hstep, ih, List.replicate_succ]

/-- `Padding::get` after `m` bumps of the wrapping counter is the specified pad count -/
theorem toNat_neg_and_three (m : Nat) : ((0 - UInt8.ofNat m) &&& 3).toNat = padLen m := by
  rw [UInt8.toNat_and, show (3 : UInt8).toNat = 2 ^ 2 - 1 from rfl, Nat.and_two_pow_sub_one_eq_mod,
    UInt8.toNat_sub, UInt8.toNat_ofNat', padLen]
  show (256 - m % 256 + 0) % 256 % 4 = (4 - m % 4) % 4
  have := Nat.mod_lt m (by decide : 0 < 256)
  rw [Nat.mod_mod_of_dvd _ (by decide : 4 ∣ 256), ← Nat.mod_mod_of_dvd m (by decide : 4 ∣ 256)]
  generalize m % 256 = r at *
  omega

/-- The trailer.  `e` itself is not in an `End` state, but its next call is that of `End(-padding)`
with the digest over padding and end sequence. -/
theorem run_trailer {e : Enc} {n : Nat} (hl : LookLike e.st n) (hr : e.rest = []) :
    ∃ e', Emits e (List.replicate e.padGet.toNat 0 ++
        ([0x1b, 0x1b, 0x1b, 0x1b, 0x1a, e.padGet] ++
          le16 (crcFinal (crcUpdate (crcUpdate e.crc (List.replicate e.padGet.toNat 0))
            [0x1b, 0x1b, 0x1b, 0x1b, 0x1a, e.padGet])))) e' ∧ e'.st = .fin 8 := by
  generalize hc : crcUpdate (crcUpdate e.crc _) _ = c
  refine ⟨_, .of_next_eq (e0 := { e with crc := c, st := .fin (-(e.padGet.toNat : Int)) }) ?_
    (by simp) ((run_zeros { e with crc := c } _).append (run_tail _)), rfl⟩
  rw [next_of_lookLike hl, next_fin rfl, nextFin_of_nonpos _ (by omega)]
  simp only [nextLook, hr, hc]
  exact nextFin_of_nonpos _ (by omega)

/-- the first `|frame p|` calls of `next` yield exactly `frame p` and leave the encoder in `End(8)` -/
theorem run_frame (p : List UInt8) : ∃ e', Emits (Enc.new p) (frame p) e' ∧ e'.st = .fin 8 := by
  have h0 : Emits (Enc.new p) Spec.START ⟨.init 8, startCrc, 0, p⟩ := by
    simp [Emits, run, next, Enc.new, Spec.START]
  obtain ⟨e1, h1, hl1, hr1, hc1, hp1⟩ :=
    run_payload p ⟨.init 8, startCrc, 0, p⟩ 0 (Or.inr ⟨rfl, Or.inl rfl⟩) rfl
  obtain ⟨e2, h2, hst⟩ := run_trailer hl1 hr1
  have hpadNat : e1.padGet.toNat = padLen (Spec.START ++ stuff p).length := by
    rw [Spec.padLen_START_stuff, padGet, hp1]
    exact toNat_neg_and_three p.length
  have hpad : e1.padGet = UInt8.ofNat (padLen (Spec.START ++ stuff p).length) := by
    rw [← hpadNat, UInt8.ofNat_toNat]
  have hcrc : crcFinal (crcUpdate (crcUpdate e1.crc (List.replicate e1.padGet.toNat 0))
      [0x1b, 0x1b, 0x1b, 0x1b, 0x1a, e1.padGet]) = crc16 (framePrefix p) := by
    rw [hc1, hpadNat, hpad, Spec.crc_framePrefix, Spec.stuff]
  rw [hcrc, hpadNat, hpad] at h2
  rw [frame_eq_parts]
  exact ⟨e2, h0.append (h1.append h2), hst⟩

theorem run_frame_add (p : List UInt8) (k : Nat) :
    ((Enc.new p).run ((frame p).length + k)).2 =
      (frame p).map EOut.byte ++ List.replicate k EOut.none := by
  obtain ⟨e', h, hst⟩ := run_frame p
  rw [run_add, h, run_fused hst k]

/-- Any number of calls, also fewer than `|frame p|` or after the end: the answers are a prefix of
the frame's bytes followed by `None`s, so none of them is a panic (encode.rs:83, 104, 110 assertions,
encode.rs:121 index, encode.rs:126 unreachable). -/
theorem run_new_no_panic (p : List UInt8) (n : Nat) :
    ∀ o ∈ ((Enc.new p).run n).2, ∀ t, o ≠ EOut.panic t := by
  intro o ho t ht
  have h := run_frame_add p n
  rw [Nat.add_comm, run_add] at h
  have hm : o ∈ (frame p).map EOut.byte ++ List.replicate n EOut.none :=
    h ▸ List.mem_append_left _ ho
  subst ht
  rcases List.mem_append.1 hm with hm | hm
  · obtain ⟨_, _, e⟩ := List.mem_map.1 hm; cases e
  · cases List.eq_of_mem_replicate hm

end Enc

end Sml
