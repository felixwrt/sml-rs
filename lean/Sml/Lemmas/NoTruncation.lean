import Sml.Props.C16
import Sml.Lemmas.CutFrame
import Sml.Lemmas.DecWindow
/-
  Property C16, "never a shortened or altered payload".

  `C16.too_small` only says that the FIRST answer which is not `Ok(None)` is `Err(OutOfMemory)`.
  Here: whatever is delivered LATER - while the rest of the oversized frame and anything after it
  is still being fed - is an intact canonical frame that lies entirely AFTER the byte at which
  the error was reported, and its payload fits the buffer.  In particular it is never `p` itself,
  never a prefix of `p`, never something assembled from bytes received before the error.
-/
namespace Sml.C16

open Spec (frame)
open C07 (fitsCap)
open C08 (StartFree Idle)

/-- Any decoder state (satisfying the invariant), any stream: if answer `i` is `InvalidMessage`,
`InvalidEsc` or `OutOfMemory` and a later answer `j` delivers `m`, then `frame m` ends with byte
`j` and begins after byte `i` (`i + 1 ≤ |pre|`), and `m` fits the buffer. -/
theorem msg_after_err {d : Dec} (hd : Dec.Inv d) (s : List UInt8) (i j : Nat) (e : DecErr)
    (m : List UInt8) (he : ∀ n, e ≠ .discarded n)
    (hi : (Dec.pushAll d s).2[i]? = some (Out.err e))
    (hj : (Dec.pushAll d s).2[j]? = some (Out.msg m)) (hij : i < j) :
    ∃ pre, s.take (j + 1) = pre ++ frame m ∧ i + 1 ≤ pre.length ∧ fitsCap d.buf.cap m.length := by
  have hil : i < s.length := by
    have := (List.getElem?_eq_some_iff.1 hi).1
    rwa [Dec.pushAll_length] at this
  obtain ⟨t, rfl⟩ : ∃ t, j = (i + 1) + t := ⟨j - (i + 1), by omega⟩
  have hfit := Dec.msg_fits s hd _ m hj
  -- answer `i + 1 + t` is answer `t` of the state after `i + 1` bytes to the rest
  have hlen : (Dec.pushAll d (s.take (i + 1))).2.length = i + 1 := by
    rw [Dec.pushAll_length, List.length_take]; omega
  rw [← List.take_append_drop (i + 1) s, Dec.pushAll_append,
    List.getElem?_append_right (by rw [hlen]; omega), hlen, Nat.add_sub_cancel_left] at hj
  -- the window restarts empty after the error; `frame m` is a window of the bytes fed since
  obtain ⟨pre', w, hs, _, hr, _⟩ := Dec.wrep_from
    (Dec.winv_of_isReset (Dec.state_after_err s d i e he hi)) (b := 0) rfl (s.drop (i + 1)) t _ hj
  rw [List.nil_append, show w = frame m from hr] at hs
  refine ⟨s.take (i + 1) ++ pre', ?_, ?_, hfit⟩
  · rw [List.append_assoc, ← hs, show i + 1 + t + 1 = (i + 1) + (t + 1) by omega, List.take_add]
  · rw [List.length_append, List.length_take]
    omega

/-- The answers `0 .. k` are known: `L`, without a payload, then an error other than
`DiscardedBytes`.  Then every payload `m` delivered by any byte `j` comes later, is the payload of a
canonical frame that lies entirely after byte `k`, and fits the buffer. -/
theorem payload_after_err {d : Dec} (hd : Dec.Inv d) (s : List UInt8) (k : Nat) (L : List Out)
    (e : DecErr) (he : ∀ n, e ≠ .discarded n) (hk : L.length = k)
    (hL : (Dec.pushAll d s).2.take (k + 1) = L ++ [Out.err e]) (hLm : ∀ m, Out.msg m ∉ L)
    (j : Nat) (m : List UInt8) (hm : (Dec.pushAll d s).2[j]? = some (Out.msg m)) :
    k < j ∧ fitsCap d.buf.cap m.length ∧
      ∃ pre, s.take (j + 1) = pre ++ frame m ∧ k + 1 ≤ pre.length := by
  have hk' : (Dec.pushAll d s).2[k]? = some (Out.err e) := by
    rw [← List.getElem?_take_of_lt (Nat.lt_succ_self k), hL]
    exact hk ▸ List.getElem?_concat_length ..
  have hkj : k < j := by
    rcases Nat.lt_or_ge k j with hlt | hge
    · exact hlt
    · exfalso
      have := List.getElem?_take_of_lt (l := (Dec.pushAll d s).2) (show j < k + 1 by omega)
      rw [hL, hm] at this
      rcases List.mem_append.1 (List.mem_of_getElem? this) with h | h
      · exact hLm m h
      · simp at h
  obtain ⟨pre, hp, hpl, hfit⟩ := msg_after_err hd s k j e m he hk' hm hkj
  exact ⟨hkj, hfit, pre, hp, hpl⟩

/-- Capacity `N < |p|`, the frame of `p`, then anything (`rest`).  `i` is the index of the
`Err(OutOfMemory)` answer of `too_small` (unique by `oom_index_unique`).  Every payload `m`
delivered by any later byte `j` is the payload of a canonical frame `frame m` that ends at byte `j`
and lies entirely after the byte `i` that reported the error; `|m| ≤ N < |p|`, so `m ≠ p`; and no
payload is delivered at or before byte `i`. -/
theorem too_small_no_truncation (p : List UInt8) (N : Nat) (h : N < p.length) :
    ∃ i, i < (frame p).length ∧
      (Dec.pushAll (Dec.fresh (some N)) ((frame p).take (i + 1))).2 =
        List.replicate i Out.none ++ [Out.err DecErr.oom] ∧
      ∀ (rest : List UInt8) (j : Nat) (m : List UInt8),
        (Dec.pushAll (Dec.fresh (some N)) (frame p ++ rest)).2[j]? = some (Out.msg m) →
        i < j ∧ m.length ≤ N ∧ m ≠ p ∧
          ∃ pre, (frame p ++ rest).take (j + 1) = pre ++ frame m ∧ i + 1 ≤ pre.length := by
  obtain ⟨i, hi, h1, _⟩ := too_small p N h
  refine ⟨i, hi, h1, fun rest j m hm => ?_⟩
  have htake : (Dec.pushAll (Dec.fresh (some N)) (frame p ++ rest)).2.take (i + 1) =
      List.replicate i Out.none ++ [Out.err DecErr.oom] := by
    rw [← Dec.pushAll_take, List.take_append_of_le_length (by omega), h1]
  obtain ⟨hij, hfit, pre, hp, hpl⟩ := payload_after_err (Dec.inv_fresh (some N)) (frame p ++ rest) i _
    DecErr.oom (by intro n hc; cases hc) (by simp) htake (by simp) j m hm
  have hmN : m.length ≤ N := hfit
  exact ⟨hij, hmN, by rintro rfl; omega, pre, hp, hpl⟩

/-- the out-of-memory error cannot come while the start sequence is being matched -/
theorem oom_index_ge8 (p : List UInt8) (cap : Option Nat) (i : Nat)
    (h1 : (Dec.pushAll (Dec.fresh cap) ((frame p).take (i + 1))).2 =
      List.replicate i Out.none ++ [Out.err DecErr.oom]) : 8 ≤ i := by
  rcases Nat.lt_or_ge i 8 with hlt | hge
  · exfalso
    have h8 := start_decodes (Dec.fresh cap) rfl
    rw [C08.take_frame_le8 p (by omega), Dec.pushAll_take, h8] at h1
    have hmem : Out.err DecErr.oom ∈ (List.replicate 8 Out.none).take (i + 1) := by
      rw [h1]; simp
    have := List.mem_of_mem_take hmem
    simp at this
  · exact hge

/-- `too_small` for a decoder with any idle history and start-free noise `g` in front: silence,
the noise report at the last byte of the start sequence (if `g ≠ []`), silence, and at byte `i` of
the frame `Err(OutOfMemory)`; the decoder is then reset.  (`8 ≤ i`: the error comes after the start
sequence.) -/
theorem too_small_idle (N : Nat) (ops : List Op) (hidle : Idle (some N) ops) (g p : List UInt8)
    (hg : StartFree g) (h : N < p.length) :
    ∃ i, 8 ≤ i ∧ i < (frame p).length ∧
      (Dec.pushAll (Dec.run (Dec.fresh (some N)) ops).1 (g ++ (frame p).take (i + 1))).2 =
        List.replicate (g.length + 7) Out.none ++
          [if g = [] then Out.none else Out.err (.discarded g.length)] ++
          List.replicate (i - 8) Out.none ++ [Out.err DecErr.oom] ∧
      let d := (Dec.pushAll (Dec.run (Dec.fresh (some N)) ops).1 (g ++ (frame p).take (i + 1))).1
      d.st = .look 0 0 ∧ d.raw = 0 ∧ d.zc = 0 ∧ d.buf.rdata = [] ∧ d.buf.cap = some N := by
  obtain ⟨i, hi, h1, _⟩ := too_small p N h
  have h8 := oom_index_ge8 p (some N) i h1
  have hsplit : (frame p).take (i + 1) = START ++ ((frame p).drop 8).take (i - 7) :=
    C08.take_frame_split p (i + 1) (by omega)
  have hout : (Dec.pushAll (Dec.fresh (some N)) (g ++ (frame p).take (i + 1))).2 =
      List.replicate (g.length + 7) Out.none ++
        [if g = [] then Out.none else Out.err (.discarded g.length)] ++
        List.replicate (i - 8) Out.none ++ [Out.err DecErr.oom] := by
    rw [hsplit, C08.noise_prefix (some N) g hg, ← hsplit, h1]
    simp only
    rw [List.drop_append_of_le_length (by rw [List.length_replicate]; exact h8),
      List.drop_replicate]
    simp only [List.append_assoc]
  have hout' := (Resync.pushAll_after_idle (some N) ops hidle (g ++ (frame p).take (i + 1))).trans hout
  refine ⟨i, h8, hi, hout', ?_⟩
  obtain ⟨r1, r2, r3, r4⟩ := Dec.state_of_last_err (by intro n hc; cases hc) hout'
  exact ⟨r1, r2, r3, r4,
    (Dec.pushAll_cap _ (Dec.run_inv ops (Dec.inv_fresh _))).trans (Dec.run_cap ops (Dec.inv_fresh _))⟩

/-- The no-truncation statement in that generality: any idle history, start-free noise `g`, the
oversized frame, then anything.  With `i` as in `too_small_idle` the error is answer number
`|g| + i`; every payload delivered later is the payload of a canonical frame lying entirely after
that byte, and fits the buffer; nothing is delivered at or before it. -/
theorem too_small_no_truncation_idle (N : Nat) (ops : List Op) (hidle : Idle (some N) ops)
    (g p : List UInt8) (hg : StartFree g) (h : N < p.length) :
    ∃ i, 8 ≤ i ∧ i < (frame p).length ∧
      (Dec.pushAll (Dec.run (Dec.fresh (some N)) ops).1 (g ++ (frame p).take (i + 1))).2 =
        List.replicate (g.length + 7) Out.none ++
          [if g = [] then Out.none else Out.err (.discarded g.length)] ++
          List.replicate (i - 8) Out.none ++ [Out.err DecErr.oom] ∧
      ∀ (rest : List UInt8) (j : Nat) (m : List UInt8),
        (Dec.pushAll (Dec.run (Dec.fresh (some N)) ops).1 (g ++ frame p ++ rest)).2[j]? =
          some (Out.msg m) →
        g.length + i < j ∧ m.length ≤ N ∧ m ≠ p ∧
          ∃ pre, (g ++ frame p ++ rest).take (j + 1) = pre ++ frame m ∧
            g.length + i + 1 ≤ pre.length := by
  obtain ⟨i, h8, hi, hout, _⟩ := too_small_idle N ops hidle g p hg h
  refine ⟨i, h8, hi, hout, fun rest j m hm => ?_⟩
  have hinv : Dec.Inv (Dec.run (Dec.fresh (some N)) ops).1 := Dec.run_inv ops (Dec.inv_fresh _)
  have hcap : (Dec.run (Dec.fresh (some N)) ops).1.buf.cap = some N :=
    Dec.run_cap ops (Dec.inv_fresh _)
  have hpre : (g ++ frame p ++ rest).take (g.length + i + 1) = g ++ (frame p).take (i + 1) := by
    rw [List.append_assoc, Nat.add_assoc, List.take_length_add_append,
      List.take_append_of_le_length (by omega)]
  have htake : (Dec.pushAll (Dec.run (Dec.fresh (some N)) ops).1 (g ++ frame p ++ rest)).2.take
      (g.length + i + 1) = (List.replicate (g.length + 7) Out.none ++
          [if g = [] then Out.none else Out.err (.discarded g.length)] ++
          List.replicate (i - 8) Out.none) ++ [Out.err DecErr.oom] := by
    rw [← Dec.pushAll_take, hpre, hout]
  obtain ⟨hij, hfit, pre, hp, hpl⟩ := payload_after_err hinv (g ++ frame p ++ rest) (g.length + i) _
    DecErr.oom (by intro n hc; cases hc) (by simp; omega) htake
    (by intro m hc
        simp only [List.mem_append, List.mem_replicate, List.mem_singleton, reduceCtorEq,
          and_false, or_false, false_or] at hc
        split at hc <;> cases hc) j m hm
  rw [hcap] at hfit
  have hmN : m.length ≤ N := hfit
  exact ⟨hij, hmN, by rintro rfl; omega, pre, hp, hpl⟩

/-- `p = 01 02 1b1b1b1b 01010101` in an `ArrayBuf<1>` (the counterexample of `OomThenNextFrame.lean`): the error
comes at byte 9; the rest of the oversized frame contains a start sequence, and the frame `09`
that follows is delivered at byte 51 ... -/
example : (Dec.pushAll (Dec.fresh (some 1))
      (frame [1, 2, 0x1b, 0x1b, 0x1b, 0x1b, 1, 1, 1, 1] ++ frame [9])).2[51]? =
    some (Out.msg [9]) := by decide +kernel

/-- ... as the theorem says: it is `frame [9]`, and it begins (byte 32) after the error -/
example : (frame [1, 2, 0x1b, 0x1b, 0x1b, 0x1b, 1, 1, 1, 1] ++ frame [9]).take 52 =
    frame [1, 2, 0x1b, 0x1b, 0x1b, 0x1b, 1, 1, 1, 1] ++ frame [9] ∧
    (frame [1, 2, 0x1b, 0x1b, 0x1b, 0x1b, 1, 1, 1, 1]).length = 32 := by decide +kernel

/-- idle history + noise: a delivered frame, then noise `1b`, then the oversized frame -/
example : (Dec.pushAll (Dec.run (Dec.fresh (some 2)) ((frame [7]).map Op.push)).1
      ([0x1b] ++ (frame [1, 2, 3]).take 11)).2 =
    List.replicate 8 Out.none ++ [Out.err (.discarded 1)] ++ List.replicate 2 Out.none ++
      [Out.err .oom] := by decide +kernel

end Sml.C16
