import Sml.Props.C11
/-
  Property C11 for the embedded-hal byte source (`SrcKind.eh`, `EhByteSource` over
  `embedded_hal::serial::Read`).

  Differences to the `io::Read` source treated in Sml/Props/C11.lean (see `Rdr.readLoop`):
    * there is no end of input: when the events are used up, every read attempt answers
      `WouldBlock` (the line is idle) — the reader returns `IoErr(WouldBlock, 0)` forever, never
      `None` and never an `Eof` error, and the decoder keeps its state;
    * there is no retry: an `Interrupted` event is an error like `other` (it resets the decoder and
      is returned as `IoErr(Other, n)`);
    * embedded-hal has no notion of end of input: the event `Ev.eof` (which cannot occur on a real
      serial line) is treated as an error like `other` as well.

  `bodyEh d evs = Rdr.trace .eh d evs` (`bodyEh_trace`), so `calls_eq_eh` is `Rdr.calls_eq_trace` and
  the would-block lemmas are those of `Rdr.trace` (Sml/Lemmas/Rdr.lean) at `.eh`.
-/
namespace Sml.C11

open RF (view body opsOf bytesOf outItem)
open Rdr

/-- the decoder operations an event sequence causes (`SrcKind.eh`); it is `evs.flatMap (Rdr.evOps
.eh)` (`opsOfEh_eq`): `RF.opsOf` for this source -/
def opsOfEh : List Ev → List Op
  | [] => []
  | .byte b :: evs => .push b :: opsOfEh evs
  | .wouldBlock :: evs => opsOfEh evs
  | .interrupted :: evs => .reset :: opsOfEh evs
  | .other :: evs => .reset :: opsOfEh evs
  | .eof :: evs => .reset :: opsOfEh evs

/-- the results produced while events are left (`SrcKind.eh`); it is `Rdr.trace .eh`
(`bodyEh_trace`): `RF.body` for this source -/
def bodyEh (d : Dec) : List Ev → List RItem
  | [] => []
  | .byte b :: evs => outItem (d.push b).2 ++ bodyEh (d.push b).1 evs
  | .wouldBlock :: evs => .ioErr .wouldBlock 0 :: bodyEh d evs
  | .interrupted :: evs => .ioErr .other d.reset.2 :: bodyEh d.reset.1 evs
  | .other :: evs => .ioErr .other d.reset.2 :: bodyEh d.reset.1 evs
  | .eof :: evs => .ioErr .other d.reset.2 :: bodyEh d.reset.1 evs

/-- remove the `WouldBlock` events (only these: `Interrupted` is an error here); it is `Rdr.strip .eh`
(`stripWB_eq`): `C11.strip` for this source -/
def stripWB : List Ev → List Ev
  | [] => []
  | .byte b :: evs => .byte b :: stripWB evs
  | .wouldBlock :: evs => stripWB evs
  | .interrupted :: evs => .interrupted :: stripWB evs
  | .other :: evs => .other :: stripWB evs
  | .eof :: evs => .eof :: stripWB evs

/-- what `reset` returns in the decoder state reached when `evs` is used up (new reader):
`C11.pending` with the operations of this source (`opsOfEh` for `opsOf`) -/
def pendingEh (cap : Option Nat) (evs : List Ev) : Nat :=
  ((Dec.run (Dec.fresh cap) (opsOfEh evs)).1.reset).2

/-- the relabelling `read_nb` / `next_nb` apply: `IoErr(WouldBlock, _)` becomes
`nb::Error::WouldBlock` -/
def toNb : RItem → RItem
  | .ioErr .wouldBlock _ => .nbWouldBlock
  | x => x

theorem opsOfEh_eq (evs : List Ev) : opsOfEh evs = evs.flatMap (evOps .eh) := by
  induction evs with
  | nil => rfl
  | cons e evs ih => cases e <;> simp [opsOfEh, evOps, ih]

theorem bodyEh_trace (d : Dec) (evs : List Ev) : bodyEh d evs = trace .eh d evs := by
  induction evs generalizing d with
  | nil => rfl
  | cons e evs ih => cases e <;> simp [bodyEh, trace, evStep, ih]

theorem run_opsOfEh (d : Dec) (evs : List Ev) : (d.run (opsOfEh evs)).1 = decAfter .eh d evs := by
  rw [decAfter_eq_run, opsOfEh_eq]

theorem stripWB_eq (evs : List Ev) : stripWB evs = Rdr.strip .eh evs := by
  induction evs with
  | nil => rfl
  | cons e evs ih => cases e <;> simp [stripWB, Rdr.strip, evOps, ih] <;> rfl

theorem opsOfEh_append (e1 e2 : List Ev) : opsOfEh (e1 ++ e2) = opsOfEh e1 ++ opsOfEh e2 := by
  rw [opsOfEh_eq, opsOfEh_eq, opsOfEh_eq, List.flatMap_append]

theorem bodyEh_append (d : Dec) (e1 e2 : List Ev) :
    bodyEh d (e1 ++ e2) = bodyEh d e1 ++ bodyEh (Dec.run d (opsOfEh e1)).1 e2 := by
  rw [bodyEh_trace, bodyEh_trace, bodyEh_trace, run_opsOfEh, trace_append]

/-- nothing in `bodyEh` is `None`, a non-blocking would-block or an end-of-input report; every
would-block carries the count 0 -/
theorem bodyEh_mem (d : Dec) (evs : List Ev) (x : RItem) (hx : x ∈ bodyEh d evs) :
    x ≠ .none ∧ x ≠ .nbWouldBlock ∧ (∀ n, x ≠ .ioErr .eof n) ∧
      ∀ n, x = .ioErr .wouldBlock n → n = 0 := by
  have h := trace_mem .eh evs d x (bodyEh_trace d evs ▸ hx)
  exact ⟨h.1, h.2.1, h.2.2.1 (Or.inl rfl), h.2.2.2⟩

theorem bodyEh_length_le (d : Dec) (evs : List Ev) : (bodyEh d evs).length ≤ evs.length := by
  rw [bodyEh_trace]; exact trace_length_le .eh evs d

theorem dropWB_replicate_wb (n : Nat) :
    dropWB (List.replicate n (RItem.ioErr .wouldBlock 0)) = [] := by
  simp [dropWB]

theorem dropWB_take_dropWB (l : List RItem) (k : Nat) :
    dropWB ((dropWB l).take k) = (dropWB l).take k := by
  unfold dropWB
  rw [List.filter_eq_self]
  intro a ha
  exact (List.mem_filter.1 (List.mem_of_mem_take ha)).2

theorem pushCount_opsOfEh (evs : List Ev) : Spec.pushCount (opsOfEh evs) = (bytesOf evs).length := by
  rw [opsOfEh_eq]; exact RF.pushCount_evOps .eh evs

/-- Any sequence of `read` / `next` / `read_nb` / `next_nb` calls on a reader over an embedded-hal
source, any events, any decoder state: the `i`-th call presents (`view`) the `i`-th element of
`bodyEh`, and `IoErr(WouldBlock, 0)` once these are used up: the line is idle, `read` reports a
would-block and changes nothing (in particular the decoder is not reset, in contrast to end of input
on the other sources). -/
theorem calls_eq_eh (cap : Option Nat) (evs : List Ev) (cs : List Call) :
    ((Rdr.new .eh cap evs).calls cs).2 =
      List.zipWith view cs (padTo (RItem.ioErr .wouldBlock 0) (bodyEh (Dec.fresh cap) evs) cs.length) := by
  rw [Rdr.new, calls_eq_trace, bodyEh_trace]
  exact congrArg _ (padTo_snoc_self (RItem.ioErr .wouldBlock 0) _ _)

theorem map_view_next_bodyEh (d : Dec) (evs : List Ev) :
    (bodyEh d evs).map (view .next) = bodyEh d evs := by
  rw [List.map_congr_left, List.map_id]
  exact fun x hx => RF.view_next_of_ne ((bodyEh_mem d evs x hx).2.2.1 0)

/-- `next_nb` is `next` followed by the relabelling of would-blocks, `read_nb` is `read` followed by it -/
theorem view_nb (x : RItem) : view .nextNb x = toNb (view .next x) ∧ view .readNb x = toNb x := by
  rcases x with _ | _ | ⟨_ | _ | _, _ | _⟩ | _ | _ | _ <;> exact ⟨rfl, rfl⟩

theorem callsSame_eh (c : Call) (d : Dec) (evs : List Ev) (k : Nat) :
    (({ kind := .eh, dec := d, evs := evs } : Rdr).calls (List.replicate k c)).2 =
      padTo (view c (.ioErr .wouldBlock 0)) ((bodyEh d evs).map (view c)) k := by
  rw [calls_replicate, ← bodyEh_trace, List.map_append]
  exact padTo_snoc_self _ _ _

theorem nexts_eh_from (d : Dec) (evs : List Ev) (k : Nat) :
    nexts { kind := .eh, dec := d, evs := evs } k =
      padTo (RItem.ioErr .wouldBlock 0) (bodyEh d evs) k := by
  unfold nexts
  rw [callsSame_eh, map_view_next_bodyEh]; rfl

/-- (1) complete behaviour of `next`: for every event list and every number `k` of calls the
results are `bodyEh`, then `IoErr(WouldBlock, 0)` forever. -/
theorem nexts_eq_eh (cap : Option Nat) (evs : List Ev) (k : Nat) :
    nexts (Rdr.new .eh cap evs) k =
      padTo (RItem.ioErr .wouldBlock 0) (bodyEh (Dec.fresh cap) evs) k :=
  nexts_eh_from (Dec.fresh cap) evs k

/-- the same for `read`: over this source `read` and `next` never differ -/
theorem reads_eq_eh (cap : Option Nat) (evs : List Ev) (k : Nat) :
    reads (Rdr.new .eh cap evs) k =
      padTo (RItem.ioErr .wouldBlock 0) (bodyEh (Dec.fresh cap) evs) k := by
  unfold reads
  show ((⟨.eh, Dec.fresh cap, evs⟩ : Rdr).calls _).2 = _
  rw [callsSame_eh]
  show padTo (RItem.ioErr .wouldBlock 0) (List.map id _) k = _
  rw [List.map_id]

/-- `next` never returns `None` and no entry point ever reports end of input: there is no end of
input on this source -/
theorem never_none_eh (cap : Option Nat) (evs : List Ev) (k : Nat) :
    ∀ x ∈ nexts (Rdr.new .eh cap evs) k,
      x ≠ RItem.none ∧ (∀ n, x ≠ RItem.ioErr .eof n) ∧ ∀ n, x = RItem.ioErr .wouldBlock n → n = 0 := by
  intro x hx
  rw [nexts_eq_eh] at hx
  unfold padTo at hx
  rcases List.mem_append.1 (List.mem_of_mem_take hx) with h | h
  · have := bodyEh_mem _ _ x h
    exact ⟨this.1, this.2.2.1, this.2.2.2⟩
  · rw [List.eq_of_mem_replicate h]
    refine ⟨by simp, by simp, fun n hn => ?_⟩
    injection hn with _ hn
    exact hn.symm

/-- after the events every call of `next` returns `IoErr(WouldBlock, 0)` -/
theorem idle_forever_eh (cap : Option Nat) (evs : List Ev) (k i : Nat) (hi : i < k)
    (h : (bodyEh (Dec.fresh cap) evs).length ≤ i) :
    (nexts (Rdr.new .eh cap evs) k)[i]? = some (RItem.ioErr .wouldBlock 0) := by
  rw [nexts_eq_eh, getElem?_padTo _ _ _ _ hi, List.getElem?_eq_none h]
  rfl

theorem bodyEh_stripWB (d : Dec) (evs : List Ev) :
    bodyEh d (stripWB evs) = dropWB (bodyEh d evs) := by
  rw [bodyEh_trace, bodyEh_trace, stripWB_eq, trace_strip]

theorem count_wb_bodyEh (d : Dec) (evs : List Ev) :
    (bodyEh d evs).count (RItem.ioErr .wouldBlock 0) = evs.count .wouldBlock := by
  rw [bodyEh_trace, count_wb_trace]

/-- (2) `wouldblock_transparent` for this source, from any decoder state; only would-block events
are erased (`Interrupted` is an error here). -/
theorem wouldblock_transparent_eh (d : Dec) (evs : List Ev) :
    dropWB (bodyEh d evs) = bodyEh d (stripWB evs) ∧
    (bodyEh d evs).count (RItem.ioErr .wouldBlock 0) = evs.count .wouldBlock ∧
    ∀ n, RItem.ioErr .wouldBlock n ∈ bodyEh d evs → n = 0 :=
  ⟨(bodyEh_stripWB d evs).symm, count_wb_bodyEh d evs,
    fun n hn => (bodyEh_mem d evs _ hn).2.2.2 n rfl⟩

theorem wouldblock_transparent_from_eh (d : Dec) (evs : List Ev) (k : Nat) :
    (dropWB (nexts { kind := .eh, dec := d, evs := evs } (k + evs.count .wouldBlock))).take k =
      dropWB (nexts { kind := .eh, dec := d, evs := stripWB evs } k) := by
  rw [nexts_eh_from, nexts_eh_from, bodyEh_stripWB, ← count_wb_bodyEh d evs,
    RF.dropWB_padTo_wb, padTo_eq_take_append, RF.dropWB_append, dropWB_replicate_wb, List.append_nil,
    dropWB_take_dropWB]

/-- In terms of calls: with `W` would-block events, the first `k` results other than would-block
among `k + W` calls of `next` are the results other than would-block of `k` calls on the stream
without would-block events — for every `k`.  (Would-blocks have to be erased on the right as
well: when its events are used up the source itself answers would-block.) -/
theorem wouldblock_transparent_calls_eh (cap : Option Nat) (evs : List Ev) (k : Nat) :
    (dropWB (nexts (Rdr.new .eh cap evs) (k + evs.count .wouldBlock))).take k =
      dropWB (nexts (Rdr.new .eh cap (stripWB evs)) k) :=
  wouldblock_transparent_from_eh (Dec.fresh cap) evs k

/-- ... equivalently: `k` calls on the stream without would-block events return the results other
than would-block of `k + W` calls on the stream with them, followed by the would-blocks of the idle
line -/
theorem wouldblock_transparent_calls_pad_eh (cap : Option Nat) (evs : List Ev) (k : Nat) :
    nexts (Rdr.new .eh cap (stripWB evs)) k =
      padTo (RItem.ioErr .wouldBlock 0)
        ((dropWB (nexts (Rdr.new .eh cap evs) (k + evs.count .wouldBlock))).take k) k := by
  rw [nexts_eq_eh, nexts_eq_eh, bodyEh_stripWB, ← count_wb_bodyEh (Dec.fresh cap) evs,
    RF.dropWB_padTo_wb, padTo_take]

/-- `read_wouldBlock` for this source. -/
theorem read_wouldBlock_eh (d : Dec) (pre post : List Ev) (hq : bodyEh d pre = []) :
    readLoop .eh d (pre ++ .wouldBlock :: post) =
      ({ kind := .eh, dec := (Dec.run d (opsOfEh pre)).1, evs := post }, RItem.ioErr .wouldBlock 0) ∧
    readLoop .eh (Dec.run d (opsOfEh pre)).1 post = readLoop .eh d (pre ++ post) := by
  rw [bodyEh_trace] at hq
  rw [run_opsOfEh, readLoop_append_quiet .eh pre d _ hq, readLoop_append_quiet .eh pre d _ hq]
  exact ⟨rfl, rfl⟩

/-- (3) Events `pre`, then an error `e` (`other`, `interrupted`, or — generalised with `Ev.eof` —
an end-of-input event, which this source reports as `Other`), then `post`, from any decoder
state: the results of `pre`, then exactly one `IoErr(Other, n)` with `n` = what `reset` returns in
the decoder state reached after `pre`, then the results of `post` from the reset decoder. -/
theorem bodyEh_other (d : Dec) (pre post : List Ev) (e : Ev)
    (he : e = .other ∨ e = .interrupted ∨ e = .eof) :
    bodyEh d (pre ++ e :: post) =
      bodyEh d pre ++ [RItem.ioErr .other ((Dec.run d (opsOfEh pre)).1.reset).2] ++
        bodyEh ((Dec.run d (opsOfEh pre)).1.reset).1 post := by
  rw [bodyEh_append, List.append_assoc]
  rcases he with rfl | rfl | rfl <;> rfl

/-- the decoder the error leaves behind differs from a new decoder in dead fields only (C14), and
such decoders give the same results on every event sequence (`Rdr.trace_equiv`) -/
theorem other_leaves_fresh_eh (cap : Option Nat) (pre : List Ev) :
    Dec.Equiv ((Dec.run (Dec.fresh cap) (opsOfEh pre)).1.reset).1 (Dec.fresh cap) :=
  Dec.reset_run_equiv_fresh cap _

/-- New reader; events `pre`, then an error `e` (`other`, `interrupted` or `eof`), then `post`.  With `rs`
= the results `pre` produces and `n = pendingEh cap pre`: the reader returns `rs`, then exactly one
`IoErr(Other, n)`, then exactly what a new reader returns on `post` — for any number of further
calls. -/
theorem other_resets_eh (cap : Option Nat) (pre post : List Ev) (e : Ev)
    (he : e = .other ∨ e = .interrupted ∨ e = .eof) :
    let rs := bodyEh (Dec.fresh cap) pre
    let n := pendingEh cap pre
    (∀ x ∈ rs, x ≠ RItem.none ∧ ∀ m, x ≠ RItem.ioErr .eof m) ∧
    nexts (Rdr.new .eh cap pre) rs.length = rs ∧
    bodyEh (Dec.fresh cap) (pre ++ e :: post) =
      rs ++ [RItem.ioErr .other n] ++ bodyEh (Dec.fresh cap) post ∧
    ∀ k, nexts (Rdr.new .eh cap (pre ++ e :: post)) (rs.length + 1 + k) =
      rs ++ [RItem.ioErr .other n] ++ nexts (Rdr.new .eh cap post) k := by
  intro rs n
  have h3 : bodyEh (Dec.fresh cap) (pre ++ e :: post) =
      rs ++ [RItem.ioErr .other n] ++ bodyEh (Dec.fresh cap) post := by
    rw [bodyEh_other _ pre post e he, bodyEh_trace _ post,
      (trace_equiv .eh post (other_leaves_fresh_eh cap pre)).1, ← bodyEh_trace]
    rfl
  refine ⟨fun x hx => ?_, ?_, h3, fun k => ?_⟩
  · have := bodyEh_mem _ _ x hx
    exact ⟨this.1, this.2.2.1⟩
  · rw [nexts_eq_eh]
    have := padTo_append_length (RItem.ioErr .wouldBlock 0) rs []
    rwa [List.append_nil] at this
  · rw [nexts_eq_eh, nexts_eq_eh, h3]
    exact padTo_append_singleton_left _ _ _ _ _

/-- `other_count_exact` for this source. -/
theorem other_count_exact_eh (cap : Option Nat) (pre : List Ev) :
    ∃ b, Spec.tileOps 0 0 (Dec.run (Dec.fresh cap) (opsOfEh pre)).2 =
        some (b, (bytesOf pre).length) ∧
      b + pendingEh cap pre = (bytesOf pre).length := by
  obtain ⟨b, h1, h2, _⟩ := C17.reset_count cap (opsOfEh pre)
  rw [pushCount_opsOfEh] at h1 h2
  exact ⟨b, h1, h2⟩

/-- (4) `nb_variants`, which does not depend on the source kind, at a new reader over this source -/
theorem nb_variants_eh (cap : Option Nat) (evs : List Ev) :
    let r := Rdr.new .eh cap evs
    r.readNb = (match r.read with
      | (r', .ioErr .wouldBlock _) => (r', RItem.nbWouldBlock)
      | x => x) ∧
    r.nextNb = (match r.next with
      | (r', .ioErr .wouldBlock _) => (r', RItem.nbWouldBlock)
      | x => x) :=
  nb_variants (Rdr.new .eh cap evs)

/-- `k` successive `next_nb` (or `read_nb`) calls, any `k`: the results of `next` with every
would-block relabelled, then `nb::Error::WouldBlock` forever -/
theorem nextNbs_eq_eh (cap : Option Nat) (evs : List Ev) (k : Nat) :
    ((Rdr.new .eh cap evs).calls (List.replicate k .nextNb)).2 =
      padTo RItem.nbWouldBlock ((bodyEh (Dec.fresh cap) evs).map toNb) k ∧
    ((Rdr.new .eh cap evs).calls (List.replicate k .readNb)).2 =
      padTo RItem.nbWouldBlock ((bodyEh (Dec.fresh cap) evs).map toNb) k ∧
    ((Rdr.new .eh cap evs).calls (List.replicate k .nextNb)).2 =
      (nexts (Rdr.new .eh cap evs) k).map toNb := by
  have h1 := callsSame_eh .nextNb (Dec.fresh cap) evs k
  have h2 := callsSame_eh .readNb (Dec.fresh cap) evs k
  rw [List.map_congr_left fun x _ => (view_nb x).1,
    show (fun x => toNb (view .next x)) = toNb ∘ view .next from rfl, ← List.map_map,
    map_view_next_bodyEh] at h1
  rw [List.map_congr_left fun x _ => (view_nb x).2] at h2
  refine ⟨h1, h2, h1.trans ?_⟩
  rw [nexts_eq_eh, map_padTo]
  rfl

/-- the frame of `12 34 56 78` split by `WouldBlock`, `WouldBlock WouldBlock` -/
def splitEh : List Ev :=
  (frame.take 5).map .byte ++ [.wouldBlock] ++ ((frame.drop 5).take 7).map .byte ++
    [.wouldBlock, .wouldBlock] ++ (frame.drop 12).map .byte

/-- three would-blocks, the payload, then would-block forever (never `None`) -/
example : nexts (Rdr.new .eh none splitEh) 6 =
    [.ioErr .wouldBlock 0, .ioErr .wouldBlock 0, .ioErr .wouldBlock 0, .ok [0x12, 0x34, 0x56, 0x78],
      .ioErr .wouldBlock 0, .ioErr .wouldBlock 0] := by
  decide +kernel

example : bodyEh (Dec.fresh none) splitEh =
    [.ioErr .wouldBlock 0, .ioErr .wouldBlock 0, .ioErr .wouldBlock 0, .ok [0x12, 0x34, 0x56, 0x78]] := by
  decide +kernel

example : stripWB splitEh = frame.map .byte := by decide +kernel

example : splitEh.count .wouldBlock = 3 := by decide +kernel

example : nexts (Rdr.new .eh none (stripWB splitEh)) 3 =
    [.ok [0x12, 0x34, 0x56, 0x78], .ioErr .wouldBlock 0, .ioErr .wouldBlock 0] := by
  decide +kernel

/-- the non-blocking entry points on the same stream -/
example : ((Rdr.new .eh none splitEh).calls [.nextNb, .readNb, .next, .nextNb, .nextNb, .read]).2 =
    [.nbWouldBlock, .nbWouldBlock, .ioErr .wouldBlock 0, .ok [0x12, 0x34, 0x56, 0x78], .nbWouldBlock,
      .ioErr .wouldBlock 0] := by
  decide +kernel

/-- `Interrupted` 9 bytes into a frame (and a would-block before it), then a complete frame: an
`IoErr(Other, 9)`, the following frame is delivered (over an `io::Read`, which retries, the same
events give no I/O error: there the decoder itself reports the 9 bytes when the next start sequence
completes) -/
def cutEh : List Ev :=
  (frame.take 4).map .byte ++ [.wouldBlock] ++ ((frame.drop 4).take 5).map .byte ++ [.interrupted] ++
    frame.map .byte

example : nexts (Rdr.new .eh none cutEh) 5 =
    [.ioErr .wouldBlock 0, .ioErr .other 9, .ok [0x12, 0x34, 0x56, 0x78], .ioErr .wouldBlock 0,
      .ioErr .wouldBlock 0] := by
  decide +kernel

example : nexts (Rdr.new .io none cutEh) 5 =
    [.ioErr .wouldBlock 0, .decErr (.discarded 9), .ok [0x12, 0x34, 0x56, 0x78], .none, .none] := by
  decide +kernel

example : pendingEh none ((frame.take 4).map .byte ++ [.wouldBlock] ++ ((frame.drop 4).take 5).map .byte)
    = 9 := by
  decide +kernel

/-- an end-of-input event (which a serial line cannot produce) is an error like `other` here:
`IoErr(Other, 9)`, never `None` or `Eof` -/
example : nexts (Rdr.new .eh none ((frame.take 9).map .byte ++ [.eof] ++ frame.map .byte ++ [.eof])) 4 =
    [.ioErr .other 9, .ok [0x12, 0x34, 0x56, 0x78], .ioErr .other 0, .ioErr .wouldBlock 0] := by
  decide +kernel

/-- an `other` error right after a delivered frame discards nothing -/
example : nexts (Rdr.new .eh (some 4) (frame.map .byte ++ [.other] ++ frame.map .byte)) 4 =
    [.ok [0x12, 0x34, 0x56, 0x78], .ioErr .other 0, .ok [0x12, 0x34, 0x56, 0x78],
      .ioErr .wouldBlock 0] := by
  decide +kernel

/-- the idle line in the middle of a frame does not reset the decoder: nine bytes, then nothing -/
example : ((Rdr.new .eh none ((frame.take 9).map .byte)).calls [.next, .next]).1.dec.raw = 9 := by
  decide +kernel

/-- the hypothesis of `read_wouldBlock_eh` is met by the first five bytes of a frame -/
example : bodyEh (Dec.fresh none) ((frame.take 5).map .byte) = [] := by decide +kernel

end Sml.C11
