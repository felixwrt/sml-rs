import Sml.Lemmas.Stuff
import Sml.Lemmas.DecFront
/-
  Round trip through the transport codec: a frame fed to the push decoder is consumed silently up
  to its last byte, which delivers the payload (`Dec.frame_delivered`).

  `Dec.St` says what is known about the decoder inside a frame: `raw`, `crc`, the control state, and
  the logical payload `dd` (buffer plus withheld zeros).  Data pushes change only zero cache and
  buffer (`dataSteps_ctl`), so the steps are equations between states given by their fields, the
  data part being `(d.dataSteps l).zc` / `.buf`, and `St.step` says what is known afterwards.  Room
  is asked for what ends up in the buffer, so withheld zeros cost nothing and capacity exactly `|p|`
  suffices (C16).
-/
namespace Sml
open Spec (stuffFrom stuff ctr padLen ESC frame framePrefix)
open C07

namespace Dec

theorem len_dataSteps_le (d : Dec) (l : List UInt8) :
    (d.dataSteps l).buf.rdata.length ≤ d.dd.length + l.length := by
  have := (grow_dataSteps l d).len
  rw [length_dd]
  simp only [Buf.len] at this
  omega

theorem dataStep_zero (d : Dec) (hz : d.zc ≤ 4) : (d.dataStep 0).zc = min 4 (d.zc + 1) := by
  by_cases h3 : d.zc ≤ 3
  · simp [dataStep, h3]
  · have : d.zc = 4 := by omega
    simp [dataStep, this]

/-- feed bytes as long as `push_byte` answers `Ok(false)`; `none` as soon as it answers anything else.
`d.quiet s = some d'` says the same as `pushAll d s = (d', replicate |s| none)`, the spelling of the
stream lemmas; `pushAll_quiet` is the bridge. -/
def quiet (d : Dec) : List UInt8 → Option Dec
  | [] => some d
  | b :: bs =>
    match d.pushByte b with
    | (d1, .more) => quiet d1 bs
    | _ => Option.none

theorem quiet_cons_of {d d1 : Dec} {b : UInt8} (h : d.pushByte b = (d1, .more)) (bs : List UInt8) :
    d.quiet (b :: bs) = d1.quiet bs := by
  simp [quiet, h]

theorem quiet_append_of {xs : List UInt8} : ∀ {d d1 : Dec}, d.quiet xs = some d1 →
    ∀ ys, d.quiet (xs ++ ys) = d1.quiet ys := by
  induction xs with
  | nil => intro d d1 h ys; cases h; rfl
  | cons x xs ih =>
    intro d d1 h ys
    simp only [quiet, List.cons_append] at h ⊢
    split at h
    · next d2 heq => exact ih h ys
    · cases h

structure St (d : Dec) (raw : Nat) (crc : UInt16) (st : DState) (cap : Option Nat)
    (data : List UInt8) : Prop where
  raw : d.raw = raw
  crc : d.crc = crc
  st : d.st = st
  cap : d.buf.cap = cap
  data : d.dd = data
  zc : d.zc ≤ 4

theorem St.congr {d : Dec} {raw raw' crc crc' st st' cap data data'}
    (h : St d raw crc st cap data) (e1 : raw = raw') (e2 : crc = crc') (e3 : st = st')
    (e4 : data = data') : St d raw' crc' st' cap data' := by
  subst e1 e2 e3 e4; exact h

/-- a decoder known by `St` is these fields, its zero cache and its buffer -/
theorem St.eta {d : Dec} {raw crc st cap data} (h : St d raw crc st cap data) :
    d = ⟨raw, crc, st, d.zc, d.buf⟩ := by
  obtain ⟨r, c, s, z, b⟩ := d
  obtain ⟨h1, h2, h3, _, _, _⟩ := h
  simp only at h1 h2 h3
  subst h1 h2 h3
  rfl

/-- decoder state matching the encoder-side run counter `n` -/
def stOf (n : Nat) : DState := if n = 0 then .normal else .escChars n

theorem stOf_zero : stOf 0 = .normal := rfl
theorem stOf_pos {n : Nat} (h : n ≠ 0) : stOf n = .escChars n := by simp [stOf, h]

theorem step_1b {d : Dec} {n raw : Nat} {crc cap data} (hn : n < 3)
    (h : St d raw crc (stOf n) cap data) :
    d.pushByte 0x1b = (⟨raw + 1, crcByte crc 0x1b, stOf (n + 1), d.zc, d.buf⟩, .more) := by
  by_cases h0 : n = 0
  · subst h0; rw [pushByte_normal h.st, h.raw, h.crc]; rfl
  · rw [pushByte_escChars (h.st.trans (stOf_pos h0)), h.raw, h.crc, stOf_pos (Nat.succ_ne_zero n)]
    simp [show n ≠ 3 by omega, show ¬ n + 1 > 255 by omega]

theorem dataSteps_ctl (l : List UInt8) : ∀ (d : Dec) (r : Nat) (c : UInt16) (s : DState),
    (⟨r, c, s, d.zc, d.buf⟩ : Dec).dataSteps l =
      ⟨r, c, s, (d.dataSteps l).zc, (d.dataSteps l).buf⟩ := by
  induction l with
  | nil => intro d r c s; rfl
  | cons b l ih =>
    intro d r c s
    have e : (⟨r, c, s, d.zc, d.buf⟩ : Dec).dataStep b =
        ⟨r, c, s, (d.dataStep b).zc, (d.dataStep b).buf⟩ := by
      unfold dataStep
      split
      · split <;> rfl
      · rfl
    rw [dataSteps_cons, dataSteps_cons, e, ih]

/-- a push that fits, from any control state over the zero cache and buffer of `d` -/
theorem pushList_ctl (d : Dec) (l : List UInt8) (r : Nat) (c : UInt16) (s : DState)
    (hf : fitsCap d.buf.cap (d.dataSteps l).buf.rdata.length) :
    pushList ⟨r, c, s, d.zc, d.buf⟩ l = .ok ⟨r, c, s, (d.dataSteps l).zc, (d.dataSteps l).buf⟩ := by
  have g := grow_dataSteps l ⟨r, c, s, d.zc, d.buf⟩
  have hwf : (dataSteps ⟨r, c, s, d.zc, d.buf⟩ l).buf.WF := by
    unfold Buf.WF; rw [g.cap, dataSteps_ctl]; exact hf
  rw [pushList_eq l (wf_of_grow g hwf), if_pos hwf, dataSteps_ctl]

theorem St.step {d : Dec} {raw crc st cap data} (h : St d raw crc st cap data) (l : List UInt8)
    (raw' : Nat) (crc' : UInt16) (st' : DState) :
    St ⟨raw', crc', st', (d.dataSteps l).zc, (d.dataSteps l).buf⟩ raw' crc' st' cap (data ++ l) :=
  ⟨rfl, rfl, rfl, (grow_dataSteps l d).cap.trans h.cap,
    (dd_dataSteps d l).trans (by rw [h.data]), (grow_dataSteps l d).zc h.zc⟩

/-- `d'` differs from `d` in zero cache and buffer contents only (hypothesis of `St.after`) -/
def Same (d d' : Dec) : Prop :=
  d'.raw = d.raw ∧ d'.crc = d.crc ∧ d'.st = d.st ∧ d'.buf.cap = d.buf.cap

theorem St.after {d d' : Dec} {raw crc st cap data} (h : St d raw crc st cap data)
    (hs : Same d d') {data' : List UInt8} (hd : d'.dd = data') (hz : d'.zc ≤ 4) (st' : DState) :
    St { d' with st := st' } raw crc st' cap data' :=
  ⟨hs.1.trans h.raw, hs.2.1.trans h.crc, rfl, hs.2.2.2.trans h.cap, hd, hz⟩

theorem step_esc_1b_3 {d : Dec} {raw crc cap data}
    (h : St d raw crc (.escChars 3) cap data) :
    ∃ d', d.pushByte 0x1b = (d', .more) ∧
      St d' (raw + 1) (crcByte crc 0x1b) (.escPayload 0 Quad.zero) cap data ∧ d'.zc = d.zc := by
  refine ⟨⟨raw + 1, crcByte crc 0x1b, .escPayload 0 Quad.zero, d.zc, d.buf⟩, ?_,
    ⟨rfl, rfl, rfl, h.cap, h.data, h.zc⟩, rfl⟩
  conv => lhs; rw [h.eta]
  simp [pushByte]

/-- room for the logical payload is room for what data pushes put into the buffer -/
theorem St.fits {d : Dec} {raw crc st cap data} (h : St d raw crc st cap data) (l : List UInt8)
    (hf : fitsCap cap (data.length + l.length)) : fitsCap cap (d.dataSteps l).buf.rdata.length :=
  fitsCap_mono hf (h.data ▸ len_dataSteps_le d l)

/-- A byte other than 0x1b met with `n` pending 0x1b: the pending bytes and the byte are data. -/
theorem step_data {d : Dec} {n raw : Nat} {crc cap data} {b : UInt8} (hb : b ≠ 0x1b)
    (h : St d raw crc (stOf n) cap data)
    (hf : fitsCap cap (d.dataSteps (List.replicate n 0x1b ++ [b])).buf.rdata.length) :
    d.pushByte b = (⟨raw + 1, crcByte crc b, .normal,
      (d.dataSteps (List.replicate n 0x1b ++ [b])).zc,
      (d.dataSteps (List.replicate n 0x1b ++ [b])).buf⟩, .more) := by
  have hp := pushList_ctl d (List.replicate n 0x1b ++ [b]) (raw + 1) (crcByte crc b) d.st
    (h.cap ▸ hf)
  by_cases h0 : n = 0
  · subst h0
    rw [pushByte_normal h.st, h.raw, h.crc]
    simp only [if_neg hb]
    rw [show [b] = List.replicate 0 0x1b ++ [b] from rfl, hp, h.st]
    rfl
  · rw [pushByte_escChars (h.st.trans (stOf_pos h0)), h.raw, h.crc]
    simp only [if_pos hb]
    rw [hp]
    rfl

theorem dataSteps_zeros (k : Nat) : ∀ d : Dec, d.zc ≤ 4 →
    (d.dataSteps (List.replicate k 0)).zc = min 4 (d.zc + k) := by
  induction k with
  | zero => intro d hz; exact (Nat.min_eq_right hz).symm
  | succ k ih =>
    intro d hz
    have h1 := dataStep_zero d hz
    rw [List.replicate_succ, dataSteps_cons, ih _ (h1 ▸ Nat.min_le_left ..), h1]
    omega

/-- `pad` zeros after `n` bytes 0x1b are all withheld: the buffer holds no more than what was
accepted before them and the 0x1b -/
theorem pad_room {d : Dec} (hz : d.zc ≤ 4) (n : Nat) {pad : Nat} (hpad : pad < 4) :
    pad ≤ (d.dataSteps (List.replicate n 0x1b ++ List.replicate pad 0)).zc ∧
      (d.dataSteps (List.replicate n 0x1b ++ List.replicate pad 0)).buf.rdata.length ≤
        d.dd.length + n := by
  have g := grow_dataSteps (List.replicate n 0x1b ++ List.replicate pad 0) d
  have hzc : pad ≤ (d.dataSteps (List.replicate n 0x1b ++ List.replicate pad 0)).zc := by
    rw [dataSteps_append, dataSteps_zeros pad _ ((grow_dataSteps _ d).zc hz)]
    omega
  refine ⟨hzc, ?_⟩
  have := g.len
  simp only [Buf.len, List.length_append, List.length_replicate] at this
  rw [length_dd]
  omega

/-- The `pad` zeros in front of the end sequence, met with `n` pending 0x1b.  The first zero turns
the pending 0x1b into data. -/
theorem pad_phase (pad : Nat) : ∀ {d : Dec} {n raw : Nat} {crc cap data},
    St d raw crc (stOf n) cap data → (n = 0 ∨ 0 < pad) →
    fitsCap cap (d.dataSteps (List.replicate n 0x1b ++ List.replicate pad 0)).buf.rdata.length →
    d.quiet (List.replicate pad 0) = some ⟨raw + pad, crcUpdate crc (List.replicate pad 0), .normal,
      (d.dataSteps (List.replicate n 0x1b ++ List.replicate pad 0)).zc,
      (d.dataSteps (List.replicate n 0x1b ++ List.replicate pad 0)).buf⟩ := by
  induction pad with
  | zero =>
    intro d n raw crc cap data h hpos _
    obtain rfl : n = 0 := by omega
    exact congrArg some h.eta
  | succ k ih =>
    intro d n raw crc cap data h _ hf
    have hL : List.replicate n 0x1b ++ List.replicate (k + 1) (0 : UInt8) =
        (List.replicate n 0x1b ++ [0]) ++ (List.replicate 0 0x1b ++ List.replicate k 0) := by
      simp [List.replicate_succ]
    rw [hL, dataSteps_append] at hf ⊢
    have hstep := step_data (b := 0) (by decide) h
      (fitsCap_mono hf (by
        have := (grow_dataSteps (List.replicate 0 0x1b ++ List.replicate k 0)
          (d.dataSteps (List.replicate n 0x1b ++ [0]))).mono
        simpa only [Buf.len] using this))
    have hctl := dataSteps_ctl (List.replicate 0 0x1b ++ List.replicate k 0)
      (d.dataSteps (List.replicate n 0x1b ++ [0])) (raw + 1) (crcByte crc 0) .normal
    have hs1 : St ⟨raw + 1, crcByte crc 0, .normal, _, _⟩ (raw + 1) (crcByte crc 0) (stOf 0) cap
        (data ++ (List.replicate n 0x1b ++ [0])) := h.step _ _ _ _
    rw [List.replicate_succ, quiet_cons_of hstep, ih hs1 (Or.inl rfl) (by rw [hctl]; exact hf)]
    simp only [hctl, crcUpdate_cons, Nat.add_assoc, Nat.add_comm 1 k]

/-- the literal escape `1b1b1b1b 1b1b1b1b`, entered with three pending 0x1b -/
theorem esc_literal {d : Dec} {raw crc cap data} (h : St d raw crc (.escChars 3) cap data)
    (hf : fitsCap cap (d.dataSteps (List.replicate 4 0x1b)).buf.rdata.length) :
    d.quiet [0x1b, 0x1b, 0x1b, 0x1b, 0x1b] = some ⟨raw + 5,
      crcUpdate crc [0x1b, 0x1b, 0x1b, 0x1b, 0x1b], .normal,
      (d.dataSteps (List.replicate 4 0x1b)).zc, (d.dataSteps (List.replicate 4 0x1b)).buf⟩ := by
  have hp := pushList_ctl d (List.replicate 4 0x1b) (raw + 5)
    (crcUpdate crc [0x1b, 0x1b, 0x1b, 0x1b, 0x1b]) (.escPayload 3 ⟨0x1b, 0x1b, 0x1b, 0⟩) (h.cap ▸ hf)
  obtain ⟨r, c, s, z, bf⟩ := d
  obtain ⟨h1, h2, h3, _, _, _⟩ := h
  simp only at h1 h2 h3
  subst h1 h2 h3
  simp [quiet, pushByte, Quad.set, Quad.zero, pushEscComplete, Quad.toList, crcUpdate, afterPush, Nat.add_assoc] at hp ⊢
  simp [hp]

/-- One payload byte.  A decoder whose state matches the run counter `n` consumes what the byte is
stuffed to silently and then matches the new run counter.  Three cases, as in the encoder: the
fourth 0x1b in a row (`esc_literal`), another 0x1b (`step_1b`), any other byte (`step_data`). -/
theorem sim_byte {d : Dec} {n raw : Nat} {crc : UInt16} {cap : Option Nat} {data : List UInt8}
    (b : UInt8) (hn : n < 4) (h : St d raw crc (stOf n) cap data)
    (hf : fitsCap cap (data.length + n + 1)) :
    ∃ d' data', d.quiet (stuffFrom n [b]) = some d' ∧
      St d' (raw + (stuffFrom n [b]).length) (crcUpdate crc (stuffFrom n [b])) (stOf (ctr n [b]))
        cap data' ∧
      data' ++ List.replicate (ctr n [b]) 0x1b = data ++ List.replicate n 0x1b ++ [b] := by
  by_cases hb : b = 0x1b
  · subst hb
    by_cases h3 : n = 3
    · -- the fourth 0x1b in a row is followed by the literal escape
      subst h3
      rw [stOf_pos (by omega)] at h
      have hq1 := esc_literal h (h.fits (List.replicate 4 0x1b) (by simpa using hf))
      exact ⟨_, _, hq1, h.step (List.replicate 4 0x1b) _ _ _, by simp [ctr, List.replicate_succ]⟩
    · have hstep := step_1b (by omega) h
      rw [Spec.stuffFrom_cons_1b_of_ne_three h3, Spec.ctr_cons_1b_of_ne_three h3]
      exact ⟨⟨raw + 1, crcByte crc 0x1b, stOf (n + 1), d.zc, d.buf⟩, data,
        by rw [quiet_cons_of hstep]; rfl, ⟨rfl, rfl, rfl, h.cap, h.data, h.zc⟩,
        by simp [List.replicate_succ']⟩
  · have hstep := step_data hb h (h.fits (List.replicate n 0x1b ++ [b])
      (by simpa [Nat.add_assoc] using hf))
    rw [Spec.stuffFrom_cons_of_ne hb, Spec.ctr_cons_of_ne hb]
    exact ⟨_, _, by rw [quiet_cons_of hstep]; rfl,
      (h.step (List.replicate n 0x1b ++ [b]) _ _ _).congr rfl rfl rfl (List.append_assoc ..).symm,
      by simp⟩

/-- The payload phase.  A decoder whose state matches the run counter `n` (the `n` pending 0x1b
are not yet in the buffer) consumes `stuffFrom n bs` silently; afterwards its state matches
`ctr n bs`, and buffer + withheld zeros + pending 0x1b have grown by exactly `bs`. -/
theorem sim_stuff (bs : List UInt8) : ∀ (d : Dec) (n raw : Nat) (crc : UInt16) (cap : Option Nat)
    (data : List UInt8), n < 4 → St d raw crc (stOf n) cap data →
    fitsCap cap (data.length + n + bs.length) →
    ∃ d' data', d.quiet (stuffFrom n bs) = some d' ∧
      St d' (raw + (stuffFrom n bs).length) (crcUpdate crc (stuffFrom n bs)) (stOf (ctr n bs)) cap data' ∧
      data' ++ List.replicate (ctr n bs) 0x1b = data ++ List.replicate n 0x1b ++ bs := by
  induction bs with
  | nil =>
    intro d n raw crc cap data _ h _
    exact ⟨d, data, rfl, h, by simp⟩
  | cons b bs ih =>
    intro d n raw crc cap data hn h hf
    obtain ⟨d1, data1, hq1, hs1, hd1⟩ := sim_byte b hn h (fitsCap_mono hf (by simp))
    obtain ⟨d2, data2, hq2, hs2, hd2⟩ := ih d1 (ctr n [b]) _ _ cap data1 (Spec.ctr_lt_4 hn [b]) hs1
      (fitsCap_mono hf (by
        have := congrArg List.length hd1
        simp only [List.length_append, List.length_replicate, List.length_singleton] at this
        simp only [List.length_cons]
        omega))
    have e1 : stuffFrom n (b :: bs) = stuffFrom n [b] ++ stuffFrom (ctr n [b]) bs :=
      Spec.stuffFrom_append n [b] bs
    have e2 : ctr n (b :: bs) = ctr (ctr n [b]) bs := Spec.ctr_append n [b] bs
    refine ⟨d2, data2, ?_, ?_, ?_⟩
    · rw [e1, quiet_append_of hq1]; exact hq2
    · rw [e1, e2, crcUpdate_append, List.length_append, ← Nat.add_assoc]; exact hs2
    · rw [e2, hd2, hd1]; simp

theorem quiet_START (r : Nat) (c : UInt16) (z : Nat) (bf : Buf) :
    (⟨r, c, .look 0 0, z, bf⟩ : Dec).quiet START = some ⟨8, startCrc, .normal, z, bf⟩ := by
  simp [quiet, pushByte, pushLook, START]

/-- the decoder after a delivered frame of `raw` bytes: `Done`, holding the payload, nothing
withheld -/
def delivered (cap : Option Nat) (p : List UInt8) (raw : Nat) : Dec :=
  ⟨raw, crcInit, .done, 0, ⟨cap, p.reverse⟩⟩

/-- the end sequence is accepted: aligned, checksum and pad count match, the pad bytes are among
the withheld zeros -/
theorem pushEnd_ok (d : Dec) (p : List UInt8) (pad : Nat) (X : UInt16)
    (hraw : d.raw % 4 = 0) (hlen : pad + 16 ≤ d.raw)
    (hcrc : crcFinal (crcUpdate d.crc [0x1a, UInt8.ofNat pad]) = X)
    (hpad : pad < 4) (hzc : pad ≤ d.zc) (hdd : d.dd = p ++ List.replicate pad 0)
    (hf : fitsCap d.buf.cap p.length) :
    d.pushEnd ⟨0x1a, UInt8.ofNat pad, X.toUInt8, (X >>> 8).toUInt8⟩ =
      (delivered d.buf.cap p d.raw, .ready) := by
  obtain ⟨r, c, s, z, bf⟩ := d
  obtain ⟨hp1, hp2⟩ : (UInt8.ofNat pad).toNat = pad ∧ ¬ (UInt8.ofNat pad > 3) := by
    have : pad = 0 ∨ pad = 1 ∨ pad = 2 ∨ pad = 3 := by omega
    rcases this with rfl | rfl | rfl | rfl <;> decide
  simp only at hraw hlen hcrc hzc hf
  have hz : z = (z - pad) + pad := by omega
  have hdata : bf.data ++ List.replicate (z - pad) 0 = p := by
    have : (bf.data ++ List.replicate (z - pad) 0) ++ List.replicate pad 0 = p ++ List.replicate pad 0 := by
      rw [← hdd, dd, List.append_assoc, List.replicate_append_replicate, ← hz]
    exact List.append_cancel_right this
  have hfit : fitsCap bf.cap (bf.rdata.length + (z - pad)) := by
    have := congrArg List.length hdata
    simp [Buf.data] at this
    rw [this]; exact hf
  have hfl : flush ⟨r, crcInit, s, z - pad, bf⟩ =
      some ⟨r, crcInit, s, 0, { bf with rdata := List.replicate (z - pad) 0 ++ bf.rdata }⟩ := by
    rw [flush_eq (fitsCap_mono hfit (Nat.le_add_right _ _))]
    exact if_pos (show room ⟨r, crcInit, s, z - pad, bf⟩ (z - pad) from hfit)
  have h1 : ¬ (r < pad + 16) := by omega
  have h2 : ¬ (pad > z) := by omega
  simp [pushEnd, ofLe16_le16, hcrc, hraw, hp1, hp2, h1, h2, hfl, delivered, ← hdata, Buf.data]

theorem pushEscComplete_1a {d : Dec} {q : Quad} (h : q.a = 0x1a) :
    pushEscComplete d q = pushEnd d q := by
  obtain ⟨a, b, c, e⟩ := q
  simp only at h
  subst h
  simp [pushEscComplete]

/-- `bytes` is consumed silently up to its last byte, which completes the message `p`;
`d'` is the decoder afterwards -/
def Delivers (d : Dec) (bytes p : List UInt8) (d' : Dec) : Prop :=
  ∃ xs y d1, bytes = xs ++ [y] ∧ d.quiet xs = some d1 ∧ d1.pushByte y = (d', .ready) ∧
    d'.st = .done ∧ d'.buf.data = p

theorem Delivers.prepend {d d1 d' : Dec} {as bs p : List UInt8} (h : d.quiet as = some d1)
    (h2 : Delivers d1 bs p d') : Delivers d (as ++ bs) p d' := by
  obtain ⟨xs, y, d2, e, hq, hp, hr⟩ := h2
  refine ⟨as ++ xs, y, d2, by rw [e, List.append_assoc], ?_, hp, hr⟩
  rw [quiet_append_of h]
  exact hq

theorem Delivers.st {d d' : Dec} {bytes p : List UInt8} (h : Delivers d bytes p d') : d'.st = .done := by
  obtain ⟨_, _, _, _, _, _, hst, _⟩ := h; exact hst

/-- The last byte of the end sequence, the escape payload holding `1a pad lo`: the checks of
`pushEnd` pass and the payload is delivered. -/
theorem end_last {d : Dec} {raw crc cap} {q : Quad} {p : List UInt8} {pad : Nat} {X : UInt16}
    (h : St d raw crc (.escPayload 3 q) cap (p ++ List.replicate pad 0))
    (ha : q.a = 0x1a) (hb : q.b = UInt8.ofNat pad) (hc : q.c = X.toUInt8)
    (hraw : (raw + 1) % 4 = 0) (hlen : pad + 16 ≤ raw + 1)
    (hcrc : crcFinal (crcUpdate crc [0x1a, UInt8.ofNat pad]) = X)
    (hpad : pad < 4) (hzc : pad ≤ d.zc) (hf : fitsCap cap p.length) :
    d.pushByte (X >>> 8).toUInt8 = (delivered cap p (raw + 1), .ready) := by
  obtain ⟨a, b, c, e⟩ := q
  simp only at ha hb hc
  subst ha hb hc
  obtain ⟨h1, h2, h3, h4, h5, _⟩ := h
  subst h1 h2 h4
  rw [pushByte_escPayload h3]
  show pushEscComplete { d with raw := d.raw + 1 } ⟨0x1a, _, _, _⟩ = _
  rw [pushEscComplete_1a rfl]
  exact pushEnd_ok { d with raw := d.raw + 1 } p pad X hraw hlen hcrc hpad hzc h5 hf

/-- The first seven bytes of the end sequence `1b1b1b1b 1a pad lo`, met with `n` pending 0x1b.  For
`n = 0` nothing is pushed.  For `n > 0` (then the frame is aligned without padding) the decoder
takes `4 - n` of the frame's 0x1b to complete the escape, so its escape payload is complete after
`8 - n` bytes, `n` short of a multiple of four: it holds the other `n` bytes 0x1b, then `1a 00 lo` as
far as it got (`1b 1a 00 _`, `1b 1b 1a _`, `1b 1b 1b _`).  The re-alignment pushes the `n` bytes 0x1b
as data (`hp`) and keeps `Quad.shift n` of the payload.  Either way the escape payload holds
`1a pad lo` after seven bytes; `simp` runs `pushByte` through them. -/
theorem end_seven {d : Dec} {n raw : Nat} {crc cap data} {pad : Nat} (lo : UInt8) (hn : n < 4)
    (h : St d raw crc (stOf n) cap data) (hnp : n = 0 ∨ pad = 0) (hraw : raw % 4 = 0)
    (hf : 0 < n → fitsCap cap (d.dataSteps (List.replicate n 0x1b)).buf.rdata.length) :
    d.quiet [0x1b, 0x1b, 0x1b, 0x1b, 0x1a, UInt8.ofNat pad, lo] = some ⟨raw + 7,
      crcUpdate crc [0x1b, 0x1b, 0x1b, 0x1b],
      .escPayload 3 ⟨0x1a, UInt8.ofNat pad, lo,
        if n = 0 then 0 else if n = 1 then lo else if n = 2 then 0 else 0x1a⟩,
      (d.dataSteps (List.replicate n 0x1b)).zc, (d.dataSteps (List.replicate n 0x1b)).buf⟩ := by
  by_cases h0 : n = 0
  · subst h0
    conv => lhs; rw [h.eta]
    simp [stOf, quiet, pushByte, Quad.set, Quad.zero, crcUpdate, Nat.add_assoc]
  obtain rfl : pad = 0 := hnp.resolve_left h0
  have hk : (4 - (raw + (8 - n)) % 4) % 4 = n := by omega
  have hp := (pushRep_eq_pushList 0x1b n _).trans (pushList_ctl d (List.replicate n 0x1b)
    (raw + (8 - n)) (crcUpdate crc [0x1b, 0x1b, 0x1b, 0x1b]) (.escPayload 3
      ⟨0x1b, if n = 1 then 0x1a else 0x1b, if n = 1 then 0 else if n = 2 then 0x1a else 0x1b, 0⟩)
    (h.cap ▸ hf (by omega)))
  conv => lhs; rw [h.eta]
  generalize d.dataSteps (List.replicate n 0x1b) = D at hp ⊢
  have hn' : n = 1 ∨ n = 2 ∨ n = 3 := by omega
  rcases hn' with rfl | rfl | rfl <;>
    simp [crcUpdate] at hk hp <;>
    simp [stOf, quiet, pushByte, Quad.set, Quad.zero, pushEscComplete, Quad.toList, Quad.get,
      Quad.shift, crcUpdate, afterPush, Nat.add_assoc, hk, hp]

/-- The end sequence `1b1b1b1b 1a pad crc`, met with `n` pending 0x1b: seven silent bytes
(`end_seven`), and the eighth delivers (`end_last`). -/
theorem end_delivered {d : Dec} {n raw : Nat} {crc cap data} {p : List UInt8} {pad : Nat}
    {X : UInt16} (hn : n < 4) (h : St d raw crc (stOf n) cap data)
    (hp : data ++ List.replicate n 0x1b = p ++ List.replicate pad 0) (hnp : n = 0 ∨ pad = 0)
    (hpad : pad < 4) (hzc : pad ≤ d.zc) (hraw : raw % 4 = 0) (hlen : pad + 8 ≤ raw)
    (hcrc : crcFinal (crcUpdate crc [0x1b, 0x1b, 0x1b, 0x1b, 0x1a, UInt8.ofNat pad]) = X)
    (hf : fitsCap cap p.length) :
    Delivers d [0x1b, 0x1b, 0x1b, 0x1b, 0x1a, UInt8.ofNat pad, X.toUInt8, (X >>> 8).toUInt8] p
      (delivered cap p (raw + 8)) := by
  have hq7 := end_seven X.toUInt8 hn h hnp hraw fun hn0 => by
    obtain rfl : pad = 0 := by omega
    have h2 := congrArg List.length hp
    simp only [List.length_append, List.length_replicate, Nat.add_zero] at h2
    exact h.fits _ (by rw [List.length_replicate, h2]; exact hf)
  have hs7 := (h.step (List.replicate n 0x1b) (raw + 7) (crcUpdate crc [0x1b, 0x1b, 0x1b, 0x1b])
    (.escPayload 3 ⟨0x1a, UInt8.ofNat pad, X.toUInt8,
      if n = 0 then 0 else if n = 1 then X.toUInt8 else if n = 2 then 0 else 0x1a⟩)).congr
    rfl rfl rfl hp
  have hz7 : pad ≤ (d.dataSteps (List.replicate n 0x1b)).zc := by
    rcases hnp with rfl | rfl
    · exact hzc
    · exact Nat.zero_le _
  exact ⟨_, _, _, rfl, hq7, end_last hs7 rfl rfl rfl (by omega) (by omega)
    (by rw [← crcUpdate_append]; exact hcrc) hpad hz7 hf, rfl, List.reverse_reverse p⟩

theorem pushAll_quiet {xs : List UInt8} : ∀ {d d1 : Dec}, d.quiet xs = some d1 →
    Dec.pushAll d xs = (d1, List.replicate xs.length Out.none) := by
  induction xs with
  | nil => intro d d1 h; cases h; rfl
  | cons x xs ih =>
    intro d d1 h
    simp only [quiet] at h
    split at h
    · next d2 heq =>
      simp only [pushAll, push, heq, ih h, List.length_cons, List.replicate_succ]
    · cases h

/-- `Delivers` in terms of `push`: silence, then the last byte is answered with the payload -/
theorem Delivers.last {d d' : Dec} {bytes p : List UInt8} (h : Delivers d bytes p d') :
    ∃ xs y d1, bytes = xs ++ [y] ∧ d.quiet xs = some d1 ∧ d1.push y = (d', .msg p) := by
  obtain ⟨xs, y, d1, e, hq, hp, _, hdata⟩ := h
  exact ⟨xs, y, d1, e, hq, by rw [push_eq, hp, ← hdata]; rfl⟩

theorem Delivers.pushAll {d d' : Dec} {bytes p : List UInt8} (h : Delivers d bytes p d') :
    Dec.pushAll d bytes = (d', List.replicate (bytes.length - 1) Out.none ++ [Out.msg p]) := by
  obtain ⟨xs, y, d1, rfl, hq, hp⟩ := h.last
  rw [pushAll_append, pushAll_quiet hq]
  simp [Dec.pushAll, hp]

theorem filterMap_replicate_none (n : Nat) :
    (List.replicate n Out.none).filterMap Out.toItem? = [] :=
  List.filterMap_replicate_of_none rfl

theorem Delivers.allItems {d d' : Dec} {bytes p : List UInt8} (h : Delivers d bytes p d') :
    d.allItems bytes = [Item.ok p] ∧ d.allRItems bytes = [RItem.ok p] := by
  simp [Dec.allItems, Dec.allRItems, h.pushAll, filterMap_replicate_none, Out.toItem?, Item.toR,
    C15.items, C15.finalItem, C15.finalRItem, finalize, h.st]

end Dec

theorem drop8_frame (p : List UInt8) :
    (frame p).drop 8 = stuff p ++ (List.replicate (padLen (Spec.START ++ stuff p).length) (0 : UInt8) ++
      [0x1b, 0x1b, 0x1b, 0x1b, 0x1a, UInt8.ofNat (padLen (Spec.START ++ stuff p).length),
        (crc16 (framePrefix p)).toUInt8, (crc16 (framePrefix p) >>> 8).toUInt8]) := by
  rw [frame_eq_parts]
  rfl

namespace Dec

/-- the decoder right after a start sequence, whatever came before it: `Normal`, eight bytes counted,
the digest over the start sequence, nothing buffered, nothing withheld -/
def started (cap : Option Nat) : Dec := ⟨8, startCrc, .normal, 0, ⟨cap, []⟩⟩

theorem st_started (cap : Option Nat) : St (started cap) 8 startCrc (stOf 0) cap [] :=
  ⟨rfl, by simp only [started], rfl, rfl, rfl, Nat.zero_le _⟩

/-- The rest of a frame from the state right after the start sequence: silence up to the last byte,
which delivers the payload. Independent of how the decoder got into that state.  Plan: the stuffed payload (`sim_stuff`), then either the padding (`pad_phase`)
and the end sequence from `Normal`, or, with pending 0x1b and no padding, the end sequence with
re-alignment (`end_delivered` both times). -/
theorem tail_delivered (cap : Option Nat) (p : List UInt8) (h6 : fitsCap cap p.length) :
    Delivers (started cap) ((frame p).drop 8) p (delivered cap p (frame p).length) := by
  obtain ⟨d1, data1, hq1, hs1, hd1⟩ := sim_stuff p (started cap) 0 8 startCrc cap [] (by omega)
    (st_started cap) (by simpa using h6)
  have hn := Spec.ctr_lt_4 (n := 0) (by omega) p
  have hs : stuffFrom 0 p = stuff p := rfl
  rw [hs] at hq1 hs1
  simp only [List.nil_append, List.replicate_zero] at hd1
  have hfit : fitsCap cap (data1.length + ctr 0 p) := by
    have := congrArg List.length hd1
    simp only [List.length_append, List.length_replicate] at this
    rw [this]; exact h6
  have hpadlt := Spec.padLen_lt_4 (Spec.START ++ stuff p).length
  have hal := Spec.padLen_spec (Spec.START ++ stuff p).length
  have hL : (Spec.START ++ stuff p).length = 8 + (stuff p).length := by
    simp [Spec.length_START]
  have hcrc := (Spec.crc_framePrefix p).symm
  have hlenf := length_frame p
  rw [drop8_frame]
  generalize crc16 (framePrefix p) = X at hcrc ⊢
  generalize padLen (Spec.START ++ stuff p).length = pad at *
  rw [hL] at hal
  by_cases hre : ctr 0 p = 0 ∨ 0 < pad
  · -- the padding first (it turns pending 0x1b into data), then the end sequence from `Normal`
    obtain ⟨hzp, hbuf⟩ := pad_room hs1.zc (ctr 0 p) hpadlt
    rw [hs1.data] at hbuf
    have hq2 := pad_phase pad hs1 hre (fitsCap_mono hfit hbuf)
    have hs2 := (hs1.step (List.replicate (ctr 0 p) 0x1b ++ List.replicate pad 0)
      (8 + (stuff p).length + pad) (crcUpdate (crcUpdate startCrc (stuff p)) (List.replicate pad 0))
      (stOf 0)).congr rfl rfl rfl (by rw [← List.append_assoc, hd1])
    have hd := end_delivered (n := 0) (X := X) (by omega) hs2 (by simp) (Or.inl rfl)
      hpadlt hzp hal (by omega) hcrc h6
    rw [show 8 + (stuff p).length + pad + 8 = (frame p).length by omega] at hd
    exact Delivers.prepend hq1 (Delivers.prepend hq2 hd)
  · -- an aligned frame whose payload ends in 0x1b: re-alignment
    obtain rfl : pad = 0 := by omega
    have hd := end_delivered (X := X) hn hs1 (by simpa using hd1) (Or.inr rfl) hpadlt
      (Nat.zero_le _) hal (by omega) (by simpa using hcrc) h6
    rw [show 8 + (stuff p).length + 8 = (frame p).length by omega] at hd
    exact Delivers.prepend hq1 (by simpa using hd)

theorem frame_eq_START_drop8 (p : List UInt8) : frame p = Sml.START ++ (frame p).drop 8 := by
  rw [drop8_frame, frame_eq_parts]
  generalize crc16 (framePrefix p) = X
  generalize padLen (Spec.START ++ stuff p).length = k
  rfl

/-- A whole frame, fed to a decoder that is looking for a start sequence (nothing discarded, buffer
empty; `raw` / `crc` are dead in that state): silence up to the last byte, which delivers `p`. -/
theorem frame_delivered (d : Dec) (p : List UInt8) (h1 : d.st = .look 0 0) (h4 : d.zc = 0)
    (h5 : d.buf.rdata = []) (h6 : fitsCap d.buf.cap p.length) :
    Delivers d (frame p) p (delivered d.buf.cap p (frame p).length) := by
  obtain ⟨r, c, s, z, bf⟩ := d
  simp only at h1 h4 h5 h6
  subst h1 h4
  rw [frame_eq_START_drop8]
  obtain ⟨cp, rd⟩ := bf
  simp only at h5 h6
  subst h5
  exact Delivers.prepend (quiet_START r c 0 ⟨cp, []⟩) (tail_delivered cp p h6)

end Dec

/-- `tail_delivered` in terms of `pushAll`: one `Ok(None)` per byte, then the payload at the last
byte (`|frame p| - 9`: the frame without the eight bytes of the start sequence and without the
delivering byte). -/
theorem frame_tail_decodes (d : Dec) (p : List UInt8) (h1 : d.st = .normal) (h2 : d.raw = 8)
    (h3 : d.crc = startCrc) (h4 : d.zc = 0) (h5 : d.buf.rdata = [])
    (h6 : fitsCap d.buf.cap p.length) :
    (Dec.pushAll d ((frame p).drop 8)).2 =
        List.replicate ((frame p).length - 9) Out.none ++ [Out.msg p] ∧
      (Dec.pushAll d ((frame p).drop 8)).1.st = .done ∧
      (Dec.pushAll d ((frame p).drop 8)).1.buf.data = p ∧
      (Dec.pushAll d ((frame p).drop 8)).1.buf.cap = d.buf.cap ∧
      (Dec.pushAll d ((frame p).drop 8)).1.zc = 0 := by
  obtain ⟨r, c, s, z, ⟨cp, rd⟩⟩ := d
  simp only at h1 h2 h3 h4 h5 h6
  subst h1 h2 h4 h5
  rw [show (⟨8, c, .normal, 0, ⟨cp, []⟩⟩ : Dec) = Dec.started cp by simp only [Dec.started, h3],
    (Dec.tail_delivered cp p h6).pushAll, List.length_drop, Nat.sub_sub]
  exact ⟨rfl, rfl, List.reverse_reverse p, rfl, rfl⟩

/-- the start sequence from `look 0 0`: eight silent steps into the post-START state -/
theorem start_decodes (d : Dec) (h1 : d.st = .look 0 0) :
    Dec.pushAll d START =
      ({ d with st := .normal, raw := 8, crc := startCrc }, List.replicate 8 Out.none) := by
  obtain ⟨r, c, s, z, bf⟩ := d
  simp only at h1
  subst h1
  exact Dec.pushAll_quiet (Dec.quiet_START r c z bf)

theorem Dec.start_fresh (cap : Option Nat) :
    Dec.pushAll (Dec.fresh cap) START = (Dec.started cap, List.replicate 8 Out.none) :=
  start_decodes (Dec.fresh cap) rfl

/-- Whatever input `a` leaves a decoder in the post-START state: what follows is answered as by a new
decoder that has been fed just the start sequence. -/
theorem Dec.sync_prefix {d : Dec} {a : List UInt8} {os : List Out} {cap : Option Nat}
    (h : Dec.pushAll d a = (Dec.started cap, os)) (x : List UInt8) :
    Dec.pushAll d (a ++ x) =
      ((Dec.pushAll (Dec.fresh cap) (START ++ x)).1,
        os ++ (Dec.pushAll (Dec.fresh cap) (START ++ x)).2.drop 8) := by
  rw [Dec.pushAll_append, h, Dec.pushAll_append, Dec.start_fresh]
  exact Prod.ext rfl (by simp only; rw [List.drop_left' (List.length_replicate ..)])

open Spec (frame) in
/-- ... in particular a frame is delivered -/
theorem Dec.sync_frame {d : Dec} {a : List UInt8} {os : List Out} {cap : Option Nat}
    (h : Dec.pushAll d a = (Dec.started cap, os)) (m : List UInt8) (hm : fitsCap cap m.length) :
    Dec.pushAll d (a ++ (frame m).drop 8) =
      (Dec.delivered cap m (frame m).length,
        os ++ (List.replicate ((frame m).length - 9) Out.none ++ [Out.msg m])) := by
  have hl := length_frame m
  rw [Dec.sync_prefix h, ← Dec.frame_eq_START_drop8,
    (Dec.frame_delivered (Dec.fresh cap) m rfl rfl rfl hm).pushAll,
    List.drop_append_of_le_length (by rw [List.length_replicate]; omega), List.drop_replicate,
    Nat.sub_sub]
  rfl

/-- The start sequence and the stuffed payload from a new decoder: silence, and the decoder matches
the encoder's run counter after `p` (`sim_stuff` behind `start_fresh`). -/
theorem Dec.start_stuff (cap : Option Nat) (p : List UInt8) (hp : fitsCap cap p.length) :
    ∃ d1 data1, Dec.pushAll (Dec.fresh cap) (START ++ stuff p) =
        (d1, List.replicate (START ++ stuff p).length Out.none) ∧
      Dec.St d1 (START ++ stuff p).length (crcUpdate startCrc (stuff p)) (Dec.stOf (ctr 0 p)) cap
        data1 := by
  have h8 := Dec.start_fresh cap
  obtain ⟨d1, data1, hq, hs, _⟩ := Dec.sim_stuff p _ 0 8 startCrc cap [] (by omega)
    (Dec.st_started cap) (by simpa using hp)
  have e : Spec.stuffFrom 0 p = stuff p := rfl
  rw [e] at hq hs
  refine ⟨d1, data1, ?_, by rw [List.length_append]; exact hs⟩
  rw [Dec.pushAll_append, h8]
  simp only
  rw [Dec.pushAll_quiet hq]
  simp only [List.length_append, ← List.replicate_append_replicate]
  rfl

end Sml
