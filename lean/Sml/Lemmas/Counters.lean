import Sml.Props.C02
import Sml.Props.C05
/-
  The `usize` counters of the push decoder (`raw_msg_len`, `num_discarded_bytes`) and every count
  it reports (`DiscardedBytes(n)` from `push_byte` or `finalize`, the value of `reset`) are bounded
  by the number of bytes pushed since the latest `finalize` / `reset` / `new` / `from_buf` (a
  delivered frame or a decode error does not restart that count: the bound is coarser than the
  counters, which `C17.reset_count` gives exactly).  So the modelling assumption "a 64-bit `usize`
  cannot overflow" follows from "fewer than 2^64 bytes are pushed between two such calls" (in
  total, for a decoder that is never reset); `num_init_seq_bytes` (u8) is at most 7.
  (Property C05; the report bounds rest on the window invariant of `DecWindow.lean`.)
-/
namespace Sml

namespace C05

open Spec (pushCount tileStep tileOpStep tileEnd tileReset)

theorem step_raw_le {d : Dec} (h : Inv d) (op : Op) (acc : List UInt8) (hr : d.raw ≤ acc.length) :
    (d.step op).1.raw ≤ (Dec.consStep acc op).length := by
  cases op with
  | push b =>
    have := Dec.pushByte_raw_le h b
    rw [← Dec.push_fst] at this
    simp only [Dec.consStep, List.length_append, List.length_cons, List.length_nil]
    exact Nat.le_trans this (by omega)
  | _ => exact Nat.zero_le _

theorem run_raw_le (ops : List Op) : ∀ {d : Dec} (acc : List UInt8), Inv d → d.raw ≤ acc.length →
    (Dec.run d ops).1.raw ≤ (ops.foldl Dec.consStep acc).length := by
  induction ops with
  | nil => intro d acc _ hr; exact hr
  | cons op ops ih =>
    intro d acc h hr
    rw [Dec.run_cons, List.foldl_cons]
    exact ih _ (Dec.step_inv h op) (step_raw_le h op acc hr)

theorem consumed_length_le (ops : List Op) : (C02.consumed ops).length ≤ pushCount ops := by
  rw [C02.consumed_eq]
  suffices h : ∀ acc : List UInt8,
      (ops.foldl Dec.consStep acc).length ≤ acc.length + pushCount ops by simpa using h []
  induction ops with
  | nil => intro acc; simp [pushCount]
  | cons op ops ih =>
    intro acc
    rw [List.foldl_cons]
    have := ih (Dec.consStep acc op)
    cases op <;> simp [Dec.consStep, pushCount] at this ⊢ <;> omega

/-- `Spec.pushCount` is the number of `push_byte` operations -/
theorem pushCount_eq_count (ops : List Op) :
    pushCount ops = (ops.filter (fun op => match op with | .push _ => true | _ => false)).length := by
  induction ops with
  | nil => rfl
  | cons op ops ih => cases op <;> simp [pushCount, ih]

/-- After every history of `push_byte` / `finalize` / `reset` / `new` / `from_buf` calls, for every
buffer capacity: `raw_msg_len` is at most the number of bytes pushed since the latest
`finalize` / `reset` / `new` / `from_buf` (`C02.consumed ops`; that is at most the number
`Spec.pushCount ops` of all bytes pushed), and in state `LookingForMessageStart`
`num_discarded_bytes ≤` that number and `num_init_seq_bytes ≤ 7` (their sum is `raw_msg_len`).
So a `usize` counter can only overflow if at least `usize::MAX` bytes are pushed between two such
calls. -/
theorem counters_le_stream (cap : Option Nat) (ops : List Op) :
    let d := (Dec.run (Dec.fresh cap) ops).1
    d.raw ≤ (C02.consumed ops).length ∧ (C02.consumed ops).length ≤ pushCount ops ∧
      ∀ disc init, d.st = .look disc init →
        disc ≤ (C02.consumed ops).length ∧ init ≤ 7 ∧ disc + init = d.raw := by
  intro d
  have hraw : d.raw ≤ (C02.consumed ops).length := by
    rw [C02.consumed_eq]
    exact run_raw_le ops [] (Dec.inv_fresh cap) (Nat.zero_le _)
  refine ⟨hraw, consumed_length_le ops, ?_⟩
  intro disc init hst
  obtain ⟨h7, _, _, hsum⟩ := (inv_reachable cap ops).look hst
  have hsum : d.raw = disc + init := hsum
  exact ⟨by omega, h7, hsum.symm⟩

/-- the same for a plain stream fed to a new decoder -/
theorem counters_le_stream_pushAll (cap : Option Nat) (s : List UInt8) :
    let d := (Dec.pushAll (Dec.fresh cap) s).1
    d.raw ≤ s.length ∧
      ∀ disc init, d.st = .look disc init → disc ≤ s.length ∧ init ≤ 7 ∧ disc + init = d.raw := by
  intro d
  have hraw : d.raw ≤ s.length := by
    have h1 : d.raw ≤ (Dec.fresh cap).raw + s.length := Dec.pushAll_raw_le s (Dec.inv_fresh cap)
    have h0 : (Dec.fresh cap).raw = 0 := rfl
    omega
  refine ⟨hraw, ?_⟩
  intro disc init hst
  obtain ⟨h7, _, _, hsum⟩ := (Dec.pushAll_inv s (Dec.inv_fresh cap)).look hst
  have hsum : d.raw = disc + init := hsum
  exact ⟨by omega, h7, hsum.symm⟩

/-- the operation result `o` reports the byte count `n` -/
def Reports (o : OpOut) (n : Nat) : Prop :=
  o = .out (.err (.discarded n)) ∨ o = .fin (some (.discarded n)) ∨ o = .reset n

theorem pushCount_map_push (s : List UInt8) : pushCount (s.map Op.push) = s.length := by
  induction s with
  | nil => rfl
  | cons b bs ih => simp [pushCount, ih]

/-- Every count reported at the `k`-th operation of a history is bounded by the number of bytes
pushed since the latest `finalize` / `reset` / `new` / `from_buf` before it: a
`DiscardedBytes(n)` from `push_byte` with `n + 8 ≤` that number including the current byte, a
`DiscardedBytes(n)` from `finalize` or the value `n` of `reset` with `n ≤` that number. -/
theorem reported_counts_le_segment (cap : Option Nat) (ops : List Op) (k : Nat) (o : OpOut) (n : Nat)
    (h : (Dec.run (Dec.fresh cap) ops).2[k]? = some o) :
    (o = .out (.err (.discarded n)) → n + 8 ≤ (C02.consumed (ops.take (k + 1))).length) ∧
    (o = .fin (some (.discarded n)) ∨ o = .reset n → n ≤ (C02.consumed (ops.take k)).length) := by
  -- a reported count is the length of (a part of) the window, a suffix of the consumed bytes
  obtain ⟨op, h1, h2⟩ := Dec.run_getElem? ops _ k _ h
  obtain ⟨w, _, hw, hc, _⟩ :=
    Dec.winv_run (ops.take k) (Dec.winv_fresh cap) (List.suffix_refl []) (b := 0) (i := 0) rfl
  have hl := hc.length_le
  rw [C02.consumed_eq, C02.consumed_eq, h1, List.foldl_append]
  subst h2
  cases op with
  | push x =>
    refine ⟨fun ho => ?_, by simp [Dec.step]⟩
    have hr := (Dec.winv_push hw x).1
    rw [show ((Dec.run (Dec.fresh cap) (ops.take k)).1.push x).2 = .err (.discarded n) by
      simpa [Dec.step] using ho] at hr
    obtain ⟨tile, e1, e2, _⟩ := hr
    have := congrArg List.length e1
    simp only [List.length_append, List.length_cons, List.length_nil, START] at this
    simp only [List.foldl_cons, List.foldl_nil, Dec.consStep, List.length_append, List.length_cons,
      List.length_nil]
    omega
  | fin =>
    refine ⟨by simp [Dec.step], fun ho => ?_⟩
    have : (Dec.run (Dec.fresh cap) (ops.take k)).1.finalize.2 = some (.discarded n) := by
      simpa [Dec.step] using ho
    rw [hw.finalize] at this
    split at this
    · cases this
    · injection this with this; injection this with this; omega
  | reset =>
    refine ⟨by simp [Dec.step], fun ho => ?_⟩
    have : (Dec.run (Dec.fresh cap) (ops.take k)).1.reset.2 = n := by simpa [Dec.step] using ho
    rw [hw.reset_count] at this
    omega
  | _ => simp [Dec.step]

theorem pushCount_append (l1 l2 : List Op) : pushCount (l1 ++ l2) = pushCount l1 + pushCount l2 := by
  induction l1 with
  | nil => simp [pushCount]
  | cons op l ih =>
    rw [List.cons_append, Dec.pushCount_cons op l, Dec.pushCount_cons op (l ++ l2), ih]; omega

theorem pushCount_take_le (ops : List Op) (k : Nat) : pushCount (ops.take k) ≤ pushCount ops := by
  conv => rhs; rw [← List.take_append_drop k ops, pushCount_append]
  omega

/-- Every count reported in a history — `Err(DiscardedBytes(n))` from `push_byte` or `finalize`,
or the value `n` returned by `reset` (which `DecoderReader` attaches to an I/O error) — at the
`k`-th operation is bounded by the number of bytes pushed by the operations `0..k`; a
`DiscardedBytes(n)` from `push_byte` even leaves room for the start sequence that triggered it. -/
theorem reported_counts_le_stream (cap : Option Nat) (ops : List Op) (k : Nat) (o : OpOut) (n : Nat)
    (h : (Dec.run (Dec.fresh cap) ops).2[k]? = some o) (hr : Reports o n) :
    n ≤ pushCount (ops.take (k + 1)) ∧ pushCount (ops.take (k + 1)) ≤ pushCount ops ∧
      (o = .out (.err (.discarded n)) → n + 8 ≤ pushCount (ops.take (k + 1))) := by
  obtain ⟨h1, h2⟩ := reported_counts_le_segment cap ops k o n h
  have c1 := consumed_length_le (ops.take (k + 1))
  have c2 := consumed_length_le (ops.take k)
  have c3 : pushCount (ops.take k) ≤ pushCount (ops.take (k + 1)) := by
    have := pushCount_take_le (ops.take (k + 1)) k
    rwa [List.take_take, Nat.min_eq_left (Nat.le_succ k)] at this
  refine ⟨?_, pushCount_take_le ops (k + 1), fun ho => Nat.le_trans (h1 ho) c1⟩
  rcases hr with hr | hr | hr
  · have := h1 hr; omega
  · have := h2 (Or.inl hr); omega
  · have := h2 (Or.inr hr); omega

/-- plain streams: a `DiscardedBytes(n)` reported by the byte at index `k` has `n + 8 ≤ k + 1` -/
theorem reported_counts_le_stream_pushAll (cap : Option Nat) (s : List UInt8) (k n : Nat)
    (h : (Dec.pushAll (Dec.fresh cap) s).2[k]? = some (Out.err (.discarded n))) :
    n + 8 ≤ k + 1 ∧ k + 1 ≤ s.length := by
  have hk : k < s.length := by
    have := (List.getElem?_eq_some_iff.1 h).1
    rwa [Dec.pushAll_length] at this
  have h' : (Dec.run (Dec.fresh cap) (s.map Op.push)).2[k]? =
      some (OpOut.out (Out.err (.discarded n))) := by
    rw [← (Dec.pushAll_eq_run s _).2, List.getElem?_map, h]; rfl
  have := (reported_counts_le_stream cap _ k _ n h' (Or.inl rfl)).2.2 rfl
  rw [← List.map_take, pushCount_map_push, List.length_take] at this
  omega

/-- a state `look disc init` with both counters non-zero is reached -/
example : (Dec.run (Dec.fresh none) [.push 0xaa, .push 0x1b, .push 0x1b]).1.st = .look 1 2 := by
  decide

/-- after a `reset` only the bytes pushed since then count: `consumed` has length 1, `pushCount` 3 -/
example : (C02.consumed [.push 0xaa, .push 0x1b, .reset, .push 0x1b]).length = 1 ∧
    pushCount [.push 0xaa, .push 0x1b, .reset, .push 0x1b] = 3 ∧
    (Dec.run (Dec.fresh none) [.push 0xaa, .push 0x1b, .reset, .push 0x1b]).1.raw = 1 := by
  decide

/-- all three kinds of report occur -/
example : (Dec.run (Dec.fresh (some 8))
      ([0xaa, 0x1b, 0x1b, 0x1b, 0x1b, 1, 1, 1, 1].map Op.push ++ [.push 5, .reset, .push 7, .fin])).2[8]? =
      some (OpOut.out (Out.err (.discarded 1))) ∧
    (Dec.run (Dec.fresh (some 8))
      ([0xaa, 0x1b, 0x1b, 0x1b, 0x1b, 1, 1, 1, 1].map Op.push ++ [.push 5, .reset, .push 7, .fin])).2[10]? =
      some (OpOut.reset 9) ∧
    (Dec.run (Dec.fresh (some 8))
      ([0xaa, 0x1b, 0x1b, 0x1b, 0x1b, 1, 1, 1, 1].map Op.push ++ [.push 5, .reset, .push 7, .fin])).2[12]? =
      some (OpOut.fin (some (.discarded 1))) := by
  decide +kernel

example : Reports (OpOut.reset 9) 9 := Or.inr (Or.inr rfl)

/-- `reported_counts_le_segment` is tight: `reset` at index 10 returns 9 after 9 + 1 pushes, and
the `finalize` at index 12 reports 1 = the one byte pushed since that `reset` (of 11 in total) -/
example : (C02.consumed (([0xaa, 0x1b, 0x1b, 0x1b, 0x1b, 1, 1, 1, 1].map Op.push ++
      [Op.push 5, Op.reset, Op.push 7, Op.fin]).take 10)).length = 10 ∧
    (C02.consumed (([0xaa, 0x1b, 0x1b, 0x1b, 0x1b, 1, 1, 1, 1].map Op.push ++
      [Op.push 5, Op.reset, Op.push 7, Op.fin]).take 12)).length = 1 := by decide

example : (Dec.pushAll (Dec.fresh none) [0xaa, 0x1b, 0x1b, 0x1b, 0x1b, 1, 1, 1, 1]).2[8]? =
    some (Out.err (.discarded 1)) := by decide +kernel

end C05

end Sml
