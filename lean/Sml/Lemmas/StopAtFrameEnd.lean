import Sml.Props.C01
import Sml.Lemmas.E2E
import Sml.Lemmas.RdrFaults
/-
  C01, "reported when the frame's last byte is consumed", for the pull front-ends.

  `C01.roundtrip_push` states the position for the push decoder (one `Ok(None)` per byte of the
  frame except the last).  For the pull front-ends `C01.roundtrip_iter` / `roundtrip_reader_*` state
  the result lists over an input that holds exactly the frame.  Here: when MORE input follows the
  frame, `DecodeIterator::next` and `DecoderReader::{read, next, read_nb, next_nb}` return the
  payload with the source positioned exactly behind the frame's last byte (`bytes = rest` /
  `evs = rest`: nothing of `rest` has been consumed, nothing of the frame is left), and the decoder
  they hold is `after cap p`, the push decoder after the frame: state `Done`, holding the payload,
  `Dec.Equiv` (C14) to a newly constructed decoder, so that the next call continues on `rest` exactly
  like a new iterator / reader would (`iter_continues_fresh`, `reader_continues_fresh`).

  The same with would-block (and, for `io::Read`, interrupted) events interspersed among
  the frame's bytes: after exactly one `IoErr(WouldBlock, 0)` per would-block event the payload is
  returned, again with `evs = rest`.

  The hypothesis `capFits cap p.length` is the one of Props/C01.lean; no hypothesis on `rest`.
-/
namespace Sml.C01

open Spec (frame)
open Rdr (Call)
open RF (view bytesOf)

/-- the push decoder after it has been fed the frame of `p` -/
def after (cap : Option Nat) (p : List UInt8) : Dec := (Dec.pushAll (Dec.fresh cap) (frame p)).1

theorem after_eq (p : List UInt8) (cap : Option Nat) (h : capFits cap p.length) :
    after cap p = Dec.delivered cap p (frame p).length := by
  unfold after; rw [(Dec.frame_delivered (Dec.fresh cap) p rfl rfl rfl h).pushAll]; rfl

theorem delivers_after (p : List UInt8) (cap : Option Nat) (h : capFits cap p.length) :
    Dec.Delivers (Dec.fresh cap) (frame p) p (after cap p) := by
  rw [after_eq p cap h]; exact Dec.frame_delivered (Dec.fresh cap) p rfl rfl rfl h

/-- The decoder after the frame: state `Done`, the buffer holds exactly the payload, no zeros are
withheld, the capacity is unchanged, and it is equivalent (C14: equal up to fields no later
operation can observe) to a newly constructed decoder. -/
theorem after_boundary (p : List UInt8) (cap : Option Nat) (h : capFits cap p.length) :
    (after cap p).st = .done ∧ (after cap p).buf.data = p ∧ (after cap p).zc = 0 ∧
      (after cap p).buf.cap = cap ∧ C14.Equiv (after cap p) (Dec.fresh cap) := by
  rw [after_eq p cap h]
  exact ⟨rfl, List.reverse_reverse p, rfl, rfl, Dec.equiv_fresh_of_done rfl rfl⟩

theorem pull_quiet {xs : List UInt8} : ∀ {d d1 : Dec}, d.quiet xs = some d1 →
    ∀ ys, DecIter.pull d (xs ++ ys) = DecIter.pull d1 ys := by
  induction xs with
  | nil => intro d d1 h ys; cases h; rfl
  | cons x xs ih =>
    intro d d1 h ys
    simp only [Dec.quiet] at h
    split at h
    · next d2 heq =>
      simp only [List.cons_append, DecIter.pull, heq]
      exact ih h ys
    · cases h

theorem pull_delivers_append {d d' : Dec} {bytes p : List UInt8} (h : Dec.Delivers d bytes p d')
    (rest : List UInt8) :
    DecIter.pull d (bytes ++ rest) = ({ dec := d', bytes := rest, done := false }, some (Item.ok p)) := by
  obtain ⟨xs, y, d1, rfl, hq, hp⟩ := h.last
  rw [List.append_assoc, pull_quiet hq, List.singleton_append, DecIter.pull_cons, hp]
  rfl

/-- `DecodeIterator::next` on `frame p ++ rest`: the payload, and the iterator is positioned exactly
behind the frame (all of `rest` is still unread, `done` is not set). -/
theorem iter_stops_at_frame_end (p rest : List UInt8) (cap : Option Nat)
    (h : capFits cap p.length) :
    (DecIter.new cap (frame p ++ rest)).next =
      ({ dec := after cap p, bytes := rest, done := false }, some (Item.ok p)) := by
  rw [DecIter.new, DecIter.next_of_not_done]
  exact pull_delivers_append (delivers_after p cap h) rest

theorem readLoop_delivers_append (kind : SrcKind) {d d' : Dec} {bytes p : List UInt8}
    (h : Dec.Delivers d bytes p d') (rest : List Ev) :
    Rdr.readLoop kind d (bytes.map Ev.byte ++ rest) =
      ({ kind := kind, dec := d', evs := rest }, RItem.ok p) := by
  obtain ⟨xs, y, d1, rfl, hq, hp⟩ := h.last
  have hy := Rdr.evStep_msg kind hp
  rw [List.map_append, List.append_assoc, Rdr.readLoop_append_quiet kind _ d _
    (Rdr.trace_quiet kind hq).1, (Rdr.trace_quiet kind hq).2, List.map_singleton,
    List.singleton_append, Rdr.readLoop_cons_item (x := .ok p) (by rw [hy]), hy]

/-- `DecoderReader::read` over any source kind (slice / iterator, `io::Read`, embedded-hal), the
frame's bytes followed by arbitrary further events `rest` (bytes and faults): the payload, and the
source is positioned exactly behind the frame's last byte. -/
theorem reader_stops_at_frame_end (kind : SrcKind) (p : List UInt8) (rest : List Ev)
    (cap : Option Nat) (h : capFits cap p.length) :
    (Rdr.new kind cap ((frame p).map Ev.byte ++ rest)).read =
      ({ kind := kind, dec := after cap p, evs := rest }, RItem.ok p) :=
  readLoop_delivers_append kind (delivers_after p cap h) rest

/-- all four entry points (`read`, `next`, `read_nb`, `next_nb`) -/
theorem reader_call_stops_at_frame_end (c : Call) (kind : SrcKind) (p : List UInt8)
    (rest : List Ev) (cap : Option Nat) (h : capFits cap p.length) :
    (Rdr.new kind cap ((frame p).map Ev.byte ++ rest)).call c =
      ({ kind := kind, dec := after cap p, evs := rest }, RItem.ok p) := by
  rw [RF.call_eq_read, reader_stops_at_frame_end kind p rest cap h, RF.view_ok_self]

theorem reader_next_stops_at_frame_end (kind : SrcKind) (p : List UInt8) (rest : List Ev)
    (cap : Option Nat) (h : capFits cap p.length) :
    (Rdr.new kind cap ((frame p).map Ev.byte ++ rest)).next =
      ({ kind := kind, dec := after cap p, evs := rest }, RItem.ok p) :=
  reader_call_stops_at_frame_end .next kind p rest cap h

theorem reader_readNb_stops_at_frame_end (kind : SrcKind) (p : List UInt8) (rest : List Ev)
    (cap : Option Nat) (h : capFits cap p.length) :
    (Rdr.new kind cap ((frame p).map Ev.byte ++ rest)).readNb =
      ({ kind := kind, dec := after cap p, evs := rest }, RItem.ok p) :=
  reader_call_stops_at_frame_end .readNb kind p rest cap h

theorem reader_nextNb_stops_at_frame_end (kind : SrcKind) (p : List UInt8) (rest : List Ev)
    (cap : Option Nat) (h : capFits cap p.length) :
    (Rdr.new kind cap ((frame p).map Ev.byte ++ rest)).nextNb =
      ({ kind := kind, dec := after cap p, evs := rest }, RItem.ok p) :=
  reader_call_stops_at_frame_end .nextNb kind p rest cap h

/-- events that `read` passes over without touching the decoder, besides bytes: a would-block (it
ends the call with `IoErr(WouldBlock, 0)`, decoder untouched) on every source kind, and
`Interrupted` on an `io::Read` source (`read_exact` retries).  On the other source kinds
`Interrupted` is an error that resets the decoder, so it is not allowed here. -/
def transparent (kind : SrcKind) : Ev → Bool
  | .byte _ => true
  | .wouldBlock => true
  | .interrupted => kind = .io
  | _ => false

/-- Transparent events around quietly consumed bytes.  Without its would-blocks the trace is the
trace of the bytes (`Rdr.trace_strip`), which is empty: so it consists of would-blocks, one per
would-block event (`Rdr.count_wb_trace`). -/
theorem trace_transparent (kind : SrcKind) (pre : List Ev) (d d1 : Dec)
    (hq : d.quiet (bytesOf pre) = some d1) (ht : ∀ e ∈ pre, transparent kind e = true) :
    Rdr.trace kind d pre = List.replicate (pre.count .wouldBlock) (.ioErr .wouldBlock 0) ∧
      Rdr.decAfter kind d pre = d1 := by
  have hs := RF.strip_eq_bytes kind pre fun e he hr => by
    have ht := ht e he
    cases e with
    | interrupted => rw [show kind = .io by simpa [transparent] using ht] at hr; cases hr
    | other => cases ht
    | eof => cases ht
    | _ => cases hr
  refine ⟨?_, by rw [← Rdr.decAfter_strip, hs]; exact (Rdr.trace_quiet kind hq).2⟩
  have h0 : C11.dropWB (Rdr.trace kind d pre) = [] := by
    rw [← Rdr.trace_strip, hs]; exact (Rdr.trace_quiet kind hq).1
  rw [← Rdr.count_wb_trace kind pre d, List.eq_replicate_iff]
  have hall : ∀ b ∈ Rdr.trace kind d pre, b = RItem.ioErr .wouldBlock 0 := by
    simpa [C11.dropWB, List.filter_eq_nil_iff] using h0
  exact ⟨(List.count_eq_length.2 fun b hb => (hall b hb).symm).symm, hall⟩

/-- Events `pre` whose bytes the decoder consumes silently, interspersed with transparent faults:
`n + 1` calls of the same entry point, `n` the number of would-block events in `pre`, surface one
would-block each and then continue with what follows `pre`, the decoder being in the state the bytes
of `pre` lead to. -/
theorem calls_through_faults (kind : SrcKind) (c : Call) (pre : List Ev) (d d1 : Dec)
    (hq : d.quiet (bytesOf pre) = some d1) (ht : ∀ e ∈ pre, transparent kind e = true)
    (tail : List Ev) :
    ({ kind := kind, dec := d, evs := pre ++ tail } : Rdr).calls
        (c :: List.replicate (pre.count .wouldBlock) c) =
      ((Rdr.read { kind := kind, dec := d1, evs := tail }).1,
        List.replicate (pre.count .wouldBlock) (view c (.ioErr .wouldBlock 0)) ++
          [view c (Rdr.read { kind := kind, dec := d1, evs := tail }).2]) := by
  obtain ⟨h1, h2⟩ := trace_transparent kind pre d d1 hq ht
  have := Rdr.calls_prefix kind pre d (List.replicate (pre.count .wouldBlock) c) c tail
    (by rw [h1, List.length_replicate, List.length_replicate])
  rw [h1, h2, List.zipWith_replicate, Nat.min_self] at this
  rw [← List.replicate_succ, List.replicate_succ', this]

/-- The frame's bytes arrive interspersed with would-block events (any source kind) and, on an
`io::Read` source, interrupts: `pre` holds all bytes of the frame but the last, `y`, in order, and
any number of such faults anywhere (also directly in front of `y`); arbitrary events `rest` follow.
Calling the same entry point `c` again after every would-block: each would-block event is surfaced
once (`IoErr(WouldBlock, 0)` for `read` / `next`, `nb::Error::WouldBlock` for `read_nb` /
`next_nb`), the call after the last one returns the payload, and the source is then positioned
exactly behind the frame's last byte. -/
theorem reader_stops_at_frame_end_faults (c : Call) (kind : SrcKind) (p : List UInt8)
    (pre : List Ev) (y : UInt8) (rest : List Ev) (cap : Option Nat) (h : capFits cap p.length)
    (hb : bytesOf pre ++ [y] = frame p) (hpre : ∀ e ∈ pre, transparent kind e = true) :
    (Rdr.new kind cap (pre ++ Ev.byte y :: rest)).calls
        (c :: List.replicate (pre.count .wouldBlock) c) =
      ({ kind := kind, dec := after cap p, evs := rest },
        List.replicate (pre.count .wouldBlock) (view c (.ioErr .wouldBlock 0)) ++ [RItem.ok p]) := by
  obtain ⟨xs, y', d1, e, hq, hp⟩ := (delivers_after p cap h).last
  rw [← hb] at e
  obtain ⟨e1, e2⟩ := List.append_inj' e rfl
  cases e2
  subst e1
  have hy := Rdr.evStep_msg kind hp
  rw [Rdr.new, calls_through_faults kind c pre (Dec.fresh cap) d1 hq hpre, Rdr.read,
    Rdr.readLoop_cons_item (x := .ok p) (by rw [hy]), hy, RF.view_ok_self]

/-- `read`: one `IoErr(WouldBlock, 0)` per would-block event, then the payload -/
theorem reads_stop_at_frame_end_faults (kind : SrcKind) (p : List UInt8)
    (pre : List Ev) (y : UInt8) (rest : List Ev) (cap : Option Nat) (h : capFits cap p.length)
    (hb : bytesOf pre ++ [y] = frame p) (hpre : ∀ e ∈ pre, transparent kind e = true) :
    (Rdr.new kind cap (pre ++ Ev.byte y :: rest)).calls
        (List.replicate (pre.count .wouldBlock + 1) .read) =
      ({ kind := kind, dec := after cap p, evs := rest },
        List.replicate (pre.count .wouldBlock) (RItem.ioErr .wouldBlock 0) ++ [RItem.ok p]) :=
  reader_stops_at_frame_end_faults .read kind p pre y rest cap h hb hpre

/-- `next_nb` (and likewise `read_nb`): one `nb::Error::WouldBlock` per would-block event, then
the payload -/
theorem nextNbs_stop_at_frame_end_faults (kind : SrcKind) (p : List UInt8)
    (pre : List Ev) (y : UInt8) (rest : List Ev) (cap : Option Nat) (h : capFits cap p.length)
    (hb : bytesOf pre ++ [y] = frame p) (hpre : ∀ e ∈ pre, transparent kind e = true) :
    (Rdr.new kind cap (pre ++ Ev.byte y :: rest)).calls
        (List.replicate (pre.count .wouldBlock + 1) .nextNb) =
      ({ kind := kind, dec := after cap p, evs := rest },
        List.replicate (pre.count .wouldBlock) RItem.nbWouldBlock ++ [RItem.ok p]) :=
  reader_stops_at_frame_end_faults .nextNb kind p pre y rest cap h hb hpre

/-- The iterator left by `iter_stops_at_frame_end` answers all further `next` calls exactly like a
new iterator over `rest`. -/
theorem iter_continues_fresh (p rest : List UInt8) (cap : Option Nat) (h : capFits cap p.length)
    (k : Nat) :
    ({ dec := after cap p, bytes := rest, done := false } : DecIter).take k =
      (DecIter.new cap rest).take k := by
  rw [DecIter.take_eq rest (after cap p) k,
    DecIter.take_new, Dec.allItems_equiv rest (after_boundary p cap h).2.2.2.2]

theorem iter_frame_then (p rest : List UInt8) (cap : Option Nat) (h : capFits cap p.length)
    (k : Nat) :
    (DecIter.new cap (frame p ++ rest)).take (k + 1) =
      some (Item.ok p) :: (DecIter.new cap rest).take k := by
  rw [DecIter.take_succ, iter_stops_at_frame_end p rest cap h]
  exact congrArg _ (iter_continues_fresh p rest cap h k)

/-- The reader left by `reader_stops_at_frame_end` (all source kinds, all four entry points, any
faults in `rest`) answers every further sequence of calls exactly like a new reader over `rest`. -/
theorem reader_continues_fresh (kind : SrcKind) (p : List UInt8) (rest : List Ev)
    (cap : Option Nat) (h : capFits cap p.length) (cs : List Call) :
    (({ kind := kind, dec := after cap p, evs := rest } : Rdr).calls cs).2 =
      ((Rdr.new kind cap rest).calls cs).2 :=
  Rdr.calls_equiv kind rest cs (after_boundary p cap h).2.2.2.2

theorem reader_frame_then (kind : SrcKind) (p : List UInt8) (rest : List Ev) (cap : Option Nat)
    (h : capFits cap p.length) (c : Call) (cs : List Call) :
    ((Rdr.new kind cap ((frame p).map Ev.byte ++ rest)).calls (c :: cs)).2 =
      RItem.ok p :: ((Rdr.new kind cap rest).calls cs).2 := by
  rw [Rdr.calls_cons, reader_call_stops_at_frame_end c kind p rest cap h]
  exact congrArg _ (reader_continues_fresh kind p rest cap h cs)

example : capFits (some 4) ([0x1b, 0x02, 0x03, 0x1b] : List UInt8).length := Nat.le_refl 4

/-- the iterator: the payload ends in 0x1b (re-alignment branch), the rest begins like a start
sequence; all five bytes of the rest are still unread -/
example :
    (DecIter.new (some 4) (frame [0x1b, 0x02, 0x03, 0x1b] ++ [0x1b, 0x1b, 0x1b, 0x1b, 0x01])).next =
      ({ dec := after (some 4) [0x1b, 0x02, 0x03, 0x1b], bytes := [0x1b, 0x1b, 0x1b, 0x1b, 0x01],
         done := false }, some (Item.ok [0x1b, 0x02, 0x03, 0x1b])) := by decide +kernel

example : (after (some 4) [0x1b, 0x02, 0x03, 0x1b]).st = .done ∧
    (after (some 4) [0x1b, 0x02, 0x03, 0x1b]).buf.data = [0x1b, 0x02, 0x03, 0x1b] := by
  decide +kernel

/-- ... and the following calls: the five bytes are noise, reported at the end of the input -/
example :
    (DecIter.new (some 4) (frame [0x1b, 0x02, 0x03, 0x1b] ++ [0x1b, 0x1b, 0x1b, 0x1b, 0x01])).take 3 =
      [some (Item.ok [0x1b, 0x02, 0x03, 0x1b]), some (Item.err (.discarded 5)), none] := by
  decide +kernel

/-- the reader over an embedded-hal source; the rest begins with a would-block -/
example :
    (Rdr.new .eh (some 3) ((frame [0, 0, 0]).map Ev.byte ++ [.wouldBlock, .byte 0x1b, .other])).read =
      ({ kind := .eh, dec := after (some 3) [0, 0, 0], evs := [.wouldBlock, .byte 0x1b, .other] },
        RItem.ok [0, 0, 0]) := by decide +kernel

/-- `next_nb` over a slice: the rest is a second frame, delivered by the second call -/
example :
    ((Rdr.new .mem (some 2) ((frame [7, 8]).map Ev.byte ++ (frame [9]).map Ev.byte)).calls
      [.nextNb, .nextNb, .nextNb]).2 = [RItem.ok [7, 8], RItem.ok [9], RItem.none] := by
  decide +kernel

/-- the frame of `01 02 03` (20 bytes) without its last byte, with four would-blocks (one in front
of the first byte, one directly in front of the last byte) and an interrupt -/
def exPre : List Ev :=
  Ev.wouldBlock :: ((frame [1, 2, 3]).take 10).map Ev.byte ++ [.wouldBlock, .interrupted, .wouldBlock] ++
    (((frame [1, 2, 3]).drop 10).take 9).map Ev.byte ++ [.wouldBlock]

/-- the last byte of that frame -/
def exLast : UInt8 := ((frame [1, 2, 3]).drop 19).headD 0

/-- the hypotheses of `reader_stops_at_frame_end_faults` hold for it (`io::Read` source) -/
example : bytesOf exPre ++ [exLast] = frame [1, 2, 3] ∧ (∀ e ∈ exPre, transparent .io e = true) ∧
    exPre.count .wouldBlock = 4 ∧ Ev.interrupted ∈ exPre ∧ capFits (some 3) [1, 2, 3].length :=
  ⟨by decide +kernel, by decide +kernel, by decide +kernel, by decide +kernel, Nat.le_refl 3⟩

/-- ... and the conclusion by evaluation: four would-blocks, then the payload, `evs = rest` -/
example :
    (Rdr.new .io (some 3) (exPre ++ Ev.byte exLast :: [.byte 0x1b, .other])).calls
        (List.replicate 5 .read) =
      ({ kind := .io, dec := after (some 3) [1, 2, 3], evs := [.byte 0x1b, .other] },
        List.replicate 4 (RItem.ioErr .wouldBlock 0) ++ [RItem.ok [1, 2, 3]]) := by
  decide +kernel

/-- `transparent` is needed: on an embedded-hal source an interrupt among the frame's bytes is an
error that resets the decoder (10 bytes discarded), the payload is lost -/
example :
    (Rdr.new .eh none (((frame [1, 2, 3]).take 10).map Ev.byte ++ [.interrupted] ++
      ((frame [1, 2, 3]).drop 10).map Ev.byte)).read.2 = RItem.ioErr .other 10 := by
  decide +kernel

end Sml.C01
