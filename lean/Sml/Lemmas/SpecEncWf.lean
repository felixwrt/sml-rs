import Sml.Lemmas.SpecEncNum
/-
  The converse of encoder soundness: whatever the grammar relates to some bytes is well-formed
  (`enc_wf_*`): integer values lie in the range of their Rust type, octet strings and lists are
  short enough for a 32-bit type-length field.  Hence `WFFile` is not only sufficient for having an
  encoding (`C03.enc_sound`) but also necessary - it is exactly the domain of the grammar.
-/
namespace Sml.C03
open Sml Sml.Spec

/-- the bounds of `enc_sound_tlf` are exact: a list announces at most 2^32-1 elements; any other
    field at most 2^32-9 bytes (the field counts itself and a value of 16^7 or more needs 8 field
    bytes) -/
theorem enc_wf_tlf (ty : Ty) (len : Nat) (tl : Bytes) (h : EncTlf ⟨ty, len⟩ tl) :
    if ty = .listOf then len ≤ u32Max else len + 8 ≤ u32Max := by
  obtain ⟨_, _, _, hb, _⟩ := C12.parseTlf_frame ((C12.encTlf_iff _ tl).1 h)
  exact hb

end Sml.C03

namespace Sml.SpecEnc
open Sml Sml.Spec

theorem enc_wf_octet {v bs : Bytes} (h : EncOctet v bs) : WFOctet v := by
  obtain ⟨tl, _, ht⟩ := h
  simpa [WFOctet] using C03.enc_wf_tlf _ _ _ ht

theorem inUns_beNat (data : Bytes) (size : Nat) (h : data.length ≤ size) :
    InUns size (beNat data : Int) := by
  unfold InUns
  rw [C12.two_pow_8]
  have := C12.beNat_lt data
  have := Nat.pow_le_pow_right (show 0 < 256 by decide) h
  omega

theorem enc_wf_unsigned {size : Nat} {v : Int} {bs : Bytes} (h : EncUnsigned size v bs) :
    InUns size v := by
  obtain ⟨tl, data, _, _, _, h2, hv⟩ := h
  exact hv ▸ inUns_beNat data size h2

theorem inInt_twos (data : Bytes) (h : 1 ≤ data.length) : InInt data.length (twos data) := by
  cases data with
  | nil => simp at h
  | cons b0 tl =>
    have hx := C12.beNat_lt (b0 :: tl)
    have hhalf := C12.beNat_cons_ge_half b0 tl
    rw [List.length_cons, inInt_succ]
    unfold twos
    simp only
    rw [List.length_cons, C12.two_pow_8, Nat.pow_succ] at *
    generalize beNat (b0 :: tl) = x at *
    generalize 256 ^ tl.length = P at *
    split
    · have := hhalf.1 ‹_›
      omega
    · have : ¬ x ≥ 128 * P := fun h' => ‹¬ _› (hhalf.2 h')
      omega

theorem enc_wf_signed {size : Nat} {v : Int} {bs : Bytes} (h : EncSigned size v bs) :
    InInt size v := by
  obtain ⟨tl, data, _, _, h1, h2, hv⟩ := h
  exact hv ▸ inInt_mono _ h1 h2 (inInt_twos data h1)

theorem enc_wf_opt {α : Type} {E : α → Bytes → Prop} {P : α → Prop}
    {o : Option α} {bs : Bytes} (h : EncOpt E o bs) (hE : ∀ {a bs}, E a bs → P a) : WFOpt P o := by
  cases o with
  | none => trivial
  | some a => exact hE h.1

theorem enc_wf_seq {α : Type} {E : α → Bytes → Prop} {P : α → Prop}
    {xs : List α} {bs : Bytes} (h : EncSeq E xs bs) (hE : ∀ {a bs}, E a bs → P a) :
    ∀ x ∈ xs, P x := by
  induction h with
  | nil => intro x hx; cases hx
  | cons hx _ ih =>
    intro y hy
    rcases List.mem_cons.1 hy with rfl | hy
    · exact hE hx
    · exact ih y hy

theorem enc_wf_time {t : Time} {bs : Bytes} (h : EncTime t bs) : WFTime t := by
  cases t with
  | secIndex v =>
    rcases h with ⟨_, _, val, _, _, _, h2⟩ | ⟨_, data, _, _, hl, hv⟩
    · exact enc_wf_unsigned h2
    · exact (hv ▸ inUns_beNat data 4 (by omega) : InUns 4 v)

theorem enc_wf_value {v : Value} {bs : Bytes} (h : EncValue v bs) : WFValue v := by
  cases v with
  | bool b => trivial
  | bytes x => exact enc_wf_octet h
  | int size x =>
    obtain ⟨_, data, _, _, h1, _, hw, hv⟩ := h
    exact ⟨hw.1, hv ▸ inInt_mono _ h1 hw.2.1 (inInt_twos data h1)⟩
  | uns size x =>
    obtain ⟨_, data, _, _, _, _, hw, hv⟩ := h
    exact ⟨hw.1, hv ▸ inUns_beNat data size hw.2.1⟩
  | list l =>
    cases l with
    | time t =>
      obtain ⟨_, _, _, _, _, _, _, _, ht⟩ := h
      exact enc_wf_time ht

theorem enc_wf_status {s : Status} {bs : Bytes} (h : EncStatus s bs) : WFStatus s := by
  cases s with
  | status size x => exact enc_wf_value (v := .uns size x) h

theorem enc_wf_entry {x : ListEntry} {bs : Bytes} (h : EncListEntry x bs) : WFEntry x := by
  obtain ⟨_, _, _, _, _, _, _, _, _, _, h1, h2, h3, h4, h5, h6, h7⟩ := h
  exact ⟨enc_wf_octet h1, enc_wf_opt h2 enc_wf_status,
    enc_wf_opt h3 enc_wf_time, enc_wf_opt h4 enc_wf_unsigned,
    enc_wf_opt h5 enc_wf_signed, enc_wf_value h6,
    enc_wf_opt h7 enc_wf_octet⟩

theorem enc_wf_open {x : OpenResponse} {bs : Bytes} (h : EncOpenResponse x bs) : WFOpen x := by
  obtain ⟨_, _, _, _, _, _, _, _, _, h1, h2, h3, h4, h5, h6⟩ := h
  exact ⟨enc_wf_opt h1 enc_wf_octet, enc_wf_opt h2 enc_wf_octet,
    enc_wf_octet h3, enc_wf_octet h4, enc_wf_opt h5 enc_wf_time,
    enc_wf_opt h6 enc_wf_unsigned⟩

theorem enc_wf_close {x : CloseResponse} {bs : Bytes} (h : EncCloseResponse x bs) : WFClose x := by
  obtain ⟨_, _, _, _, h1⟩ := h
  exact enc_wf_opt h1 enc_wf_octet

theorem enc_wf_getList {x : GetListResponse} {bs : Bytes} (h : EncGetListResponse x bs) :
    WFGetList x := by
  obtain ⟨_, _, _, _, _, _, _, _, _, _, h1, h2, h3, h4, h5, h6, h7⟩ := h
  obtain ⟨_, _, _, hl, hs⟩ := h5
  exact ⟨enc_wf_opt h1 enc_wf_octet, enc_wf_octet h2,
    enc_wf_opt h3 enc_wf_octet, enc_wf_opt h4 enc_wf_time,
    ⟨by simpa using C03.enc_wf_tlf _ _ _ hl, enc_wf_seq hs enc_wf_entry⟩,
    enc_wf_opt h6 enc_wf_octet, enc_wf_opt h7 enc_wf_time⟩

theorem enc_wf_body {b : MessageBody} {bs : Bytes} (h : EncMessageBody b bs) : WFBody b := by
  cases b with
  | openResponse x => obtain ⟨_, _, _, _, _, _, hx⟩ := h; exact enc_wf_open hx
  | closeResponse x => obtain ⟨_, _, _, _, _, _, hx⟩ := h; exact enc_wf_close hx
  | getListResponse x => obtain ⟨_, _, _, _, _, _, hx⟩ := h; exact enc_wf_getList hx

end Sml.SpecEnc

namespace Sml.C03
open Sml Sml.Spec

theorem enc_wf_message (m : Message) (e : Bytes) (h : EncMessage m e) : WFMessage m := by
  obtain ⟨_, _, _, ⟨_, _, _, _, _, _, _, h1, h2, h3, h4⟩, _⟩ := h
  exact ⟨SpecEnc.enc_wf_octet h1, SpecEnc.enc_wf_unsigned h2, SpecEnc.enc_wf_unsigned h3, SpecEnc.enc_wf_body h4⟩

/-- everything the grammar relates to a byte string is well-formed -/
theorem enc_wf (F : File) (x : Bytes) (h : EncFile F x) : WFFile F :=
  SpecEnc.enc_wf_seq h (enc_wf_message _ _)

end Sml.C03
