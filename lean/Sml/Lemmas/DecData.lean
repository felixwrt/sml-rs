import Sml.Model.Decode
import Sml.Lemmas.Buf
/-
  The data-push layer of the push decoder (`pushInner`, `pushZeros`, `flush`, `pushData`, `pushRep`,
  `pushList`, `afterPush` of Sml/Model/Decode.lean) in closed form: a push appends to the buffer or
  the zero cache exactly as `dataStep` / `dataSteps` say, or reports out-of-memory; it never panics
  and never touches `raw`, `crc`, `st`, `buf.cap`.  `pushZeros_eq`, `flush_closed`,
  `pushData_closed` hold for any buffer, `flush_eq`, `pushData_eq`, `pushList_eq` for a buffer within
  its capacity.
  Which form for whom: the `_closed` forms (no hypothesis on the buffer) are read inside this file
  only; from them come the `_eq` forms under `Buf.WF` (`DecInv`, `DecCap`, `DecRound`) and the
  unconditional `pushList_cases` / `flush_data`, on which `afterPush_pushList_cases` rests: the
  window invariant and the round trip use it for states about whose buffer nothing is assumed.  The
  last section has `rel_ite` / `prop_ite`, with which the walks along the `if`s of a model function
  are written (`DecInv` to `DecFallible`), and restates the layer as a sequence of `PushRes` steps
  (`_pushRes`), the form over which `DecArrRefine` and `DecFallible` go step by step.
-/
namespace Sml

open C07

namespace Dec

def setBuf (d : Dec) (zc : Nat) (r : List UInt8) : Dec :=
  { d with zc := zc, buf := { d.buf with rdata := r } }

@[simp] theorem setBuf_raw (d : Dec) (z r) : (d.setBuf z r).raw = d.raw := rfl
@[simp] theorem setBuf_crc (d : Dec) (z r) : (d.setBuf z r).crc = d.crc := rfl
@[simp] theorem setBuf_st (d : Dec) (z r) : (d.setBuf z r).st = d.st := rfl
@[simp] theorem setBuf_zc (d : Dec) (z r) : (d.setBuf z r).zc = z := rfl
@[simp] theorem setBuf_cap (d : Dec) (z r) : (d.setBuf z r).buf.cap = d.buf.cap := rfl
@[simp] theorem setBuf_rdata (d : Dec) (z r) : (d.setBuf z r).buf.rdata = r := rfl
@[simp] theorem setBuf_len (d : Dec) (z r) : (d.setBuf z r).buf.len = r.length := rfl
@[simp] theorem setBuf_setBuf (d : Dec) (z r z' r') :
    (d.setBuf z r).setBuf z' r' = d.setBuf z' r' := rfl
theorem setBuf_self (d : Dec) : d.setBuf d.zc d.buf.rdata = d := rfl

def room (d : Dec) (n : Nat) : Prop := fitsCap d.buf.cap (d.buf.len + n)

instance (d : Dec) (n : Nat) : Decidable (d.room n) := by unfold room; infer_instance

theorem room_mono {d : Dec} {m n : Nat} (h : d.room n) (hmn : m ≤ n) : d.room m :=
  fitsCap_mono h (Nat.add_le_add_left hmn _)

@[simp] theorem room_setBuf (d : Dec) (z r n) :
    (d.setBuf z r).room n ↔ fitsCap d.buf.cap (r.length + n) := Iff.rfl

theorem wf_setBuf_of_room {d : Dec} {n : Nat} (h : d.room n) (z : Nat) {r : List UInt8}
    (hr : r.length = d.buf.len + n) : (d.setBuf z r).buf.WF := by
  show fitsCap d.buf.cap r.length
  rw [hr]; exact h

theorem room_of_none {d : Dec} (h : d.buf.cap = none) (n : Nat) : d.room n := by
  unfold room; rw [h]; trivial

theorem pushInner_eq (d : Dec) (b : UInt8) :
    d.pushInner b = if d.room 1 then some (d.setBuf d.zc (b :: d.buf.rdata)) else none := by
  unfold pushInner
  rw [Buf.push_eq_extend, Buf.extend_eq]
  by_cases h : d.room 1
  · rw [if_pos h, if_pos (show fitsCap d.buf.cap (d.buf.len + [b].length) from h)]; rfl
  · rw [if_neg h, if_neg (show ¬ fitsCap d.buf.cap (d.buf.len + [b].length) from h)]

/-- `pushZeros`, `flush`, `pushData` in closed form, for any buffer (a buffer over its capacity
included): the pushes succeed iff there is room, or nothing has to be written. -/
theorem pushZeros_eq (n : Nat) : ∀ (d : Dec),
    d.pushZeros n =
      if n = 0 ∨ d.room n then some (d.setBuf d.zc (List.replicate n 0 ++ d.buf.rdata))
      else none := by
  induction n with
  | zero => intro d; rw [if_pos (Or.inl rfl)]; rfl
  | succ n ih =>
    intro d
    unfold pushZeros
    rw [pushInner_eq]
    by_cases h1 : d.room 1
    · rw [if_pos h1]
      simp only
      rw [ih]
      have e : (d.setBuf d.zc (0 :: d.buf.rdata)).room n ↔ d.room (n + 1) := by
        simp only [room, Buf.len, setBuf, List.length_cons]
        rw [Nat.add_assoc, Nat.add_comm 1 n]
      by_cases hn : d.room (n + 1)
      · rw [if_pos (Or.inr (e.2 hn)), if_pos (Or.inr hn)]
        simp only [setBuf_setBuf, setBuf_zc, setBuf_rdata]
        rw [List.replicate_succ', List.append_assoc]; rfl
      · rw [if_neg (not_or.2 ⟨fun h0 => hn (by rw [h0]; exact h1), fun h => hn (e.1 h)⟩),
          if_neg (not_or.2 ⟨Nat.succ_ne_zero n, hn⟩)]
    · rw [if_neg h1,
        if_neg (not_or.2 ⟨Nat.succ_ne_zero n, fun h => h1 (room_mono h (by omega))⟩)]

theorem flush_closed (d : Dec) :
    d.flush =
      if d.zc = 0 ∨ d.room d.zc then some (d.setBuf 0 (List.replicate d.zc 0 ++ d.buf.rdata))
      else none := by
  unfold flush
  rw [pushZeros_eq]
  by_cases h : d.zc = 0 ∨ d.room d.zc
  · rw [if_pos h, if_pos h]; rfl
  · rw [if_neg h, if_neg h]

theorem flush_eq {d : Dec} (hwf : d.buf.WF) :
    d.flush =
      if d.room d.zc then some (d.setBuf 0 (List.replicate d.zc 0 ++ d.buf.rdata)) else none := by
  rw [flush_closed]
  by_cases h : d.room d.zc
  · rw [if_pos (Or.inr h), if_pos h]
  · rw [if_neg h, if_neg (not_or.2 ⟨fun hz => h (by rw [hz]; exact hwf), h⟩)]

theorem flush_data {d d' : Dec} (h : d.flush = some d') :
    d'.buf.data = d.buf.data ++ List.replicate d.zc 0 := by
  rw [flush_closed] at h
  split at h
  · cases h; simp [Buf.data]
  · cases h

/-- the state after a successful `push(b)` (decode.rs:418-433) -/
def dataStep (d : Dec) (b : UInt8) : Dec :=
  if b = 0 then
    if d.zc ≤ 3 then d.setBuf (d.zc + 1) d.buf.rdata else d.setBuf d.zc (0 :: d.buf.rdata)
  else d.setBuf 0 (b :: (List.replicate d.zc 0 ++ d.buf.rdata))

/-- the number of bytes `push(b)` writes into the buffer -/
def dataNeed (d : Dec) (b : UInt8) : Nat :=
  if b = 0 then (if d.zc ≤ 3 then 0 else 1) else d.zc + 1

/-- Three cases: a zero that is withheld; a zero pushed directly (four are withheld already); any
other byte, after a flush.  In the last, `e` says that room for one byte after the flush is room for
`zc + 1` before it. -/
theorem pushData_closed (d : Dec) (b : UInt8) :
    d.pushData b =
      if (b = 0 ∧ d.zc ≤ 3) ∨ d.room (d.dataNeed b) then .ok (d.dataStep b) else .oom := by
  unfold pushData dataNeed dataStep
  by_cases hb : b = 0
  · simp only [hb, if_true, true_and]
    by_cases hz : d.zc ≤ 3
    · have : ¬ (d.zc + 1 > 255) := by omega
      simp only [hz, if_true, this, if_false, true_or]
      rfl
    · simp only [hz, if_false, false_or, pushInner_eq]
      by_cases h : d.room 1
      · simp only [h, if_true]
      · simp only [h, if_false]
  · simp only [hb, if_false, false_and, false_or, flush_closed]
    have e : (d.setBuf 0 (List.replicate d.zc 0 ++ d.buf.rdata)).room 1 ↔ d.room (d.zc + 1) := by
      have e' : (List.replicate d.zc (0 : UInt8) ++ d.buf.rdata).length + 1
          = d.buf.rdata.length + (d.zc + 1) := by simp; omega
      show fitsCap d.buf.cap ((List.replicate d.zc (0 : UInt8) ++ d.buf.rdata).length + 1) ↔ _
      rw [e']; rfl
    by_cases h1 : d.room (d.zc + 1)
    · have h0 : d.room d.zc := room_mono h1 (by omega)
      have h2 := e.2 h1
      simp only [h0, or_true, h1, if_true, pushInner_eq, h2]
      rfl
    · simp only [h1, if_false]
      by_cases h0 : d.zc = 0 ∨ d.room d.zc
      · have h2 : ¬ (d.setBuf 0 (List.replicate d.zc 0 ++ d.buf.rdata)).room 1 :=
          fun h => h1 (e.1 h)
        simp only [h0, if_true, pushInner_eq, h2, if_false]
      · simp only [h0, if_false]

theorem pushData_eq {d : Dec} (hwf : d.buf.WF) (b : UInt8) :
    d.pushData b = if d.room (d.dataNeed b) then .ok (d.dataStep b) else .oom := by
  rw [pushData_closed]
  by_cases h : d.room (d.dataNeed b)
  · rw [if_pos (Or.inr h), if_pos h]
  · rw [if_neg h, if_neg (not_or.2 ⟨fun hw => h (by
      simp only [dataNeed, hw.1, hw.2, if_true]; exact hwf), h⟩)]

def dataSteps (d : Dec) (l : List UInt8) : Dec := l.foldl dataStep d

@[simp] theorem dataSteps_nil (d : Dec) : d.dataSteps [] = d := rfl
@[simp] theorem dataSteps_cons (d : Dec) (b : UInt8) (l : List UInt8) :
    d.dataSteps (b :: l) = (d.dataStep b).dataSteps l := rfl
theorem dataSteps_append (d : Dec) (l m : List UInt8) :
    d.dataSteps (l ++ m) = (d.dataSteps l).dataSteps m := by
  simp [dataSteps, List.foldl_append]

/-- `d'` is `d` after `k` bytes of data have been accepted: the control part is untouched, the
zero cache stays bounded, and buffer + zero cache have grown by `k` -/
structure Grow (d d' : Dec) (k : Nat) : Prop where
  raw : d'.raw = d.raw
  crc : d'.crc = d.crc
  st : d'.st = d.st
  cap : d'.buf.cap = d.buf.cap
  zc : d.zc ≤ 4 → d'.zc ≤ 4
  len : d'.buf.len + d'.zc = d.buf.len + d.zc + k
  mono : d.buf.len ≤ d'.buf.len

theorem Grow.trans {a b c : Dec} {m n : Nat} (h1 : Grow a b m) (h2 : Grow b c n) :
    Grow a c (m + n) :=
  ⟨h2.raw.trans h1.raw, h2.crc.trans h1.crc, h2.st.trans h1.st, h2.cap.trans h1.cap,
    fun h => h2.zc (h1.zc h), by have := h1.len; have := h2.len; omega,
    Nat.le_trans h1.mono h2.mono⟩

theorem grow_dataStep (d : Dec) (b : UInt8) : Grow d (d.dataStep b) 1 := by
  unfold dataStep
  by_cases hb : b = 0
  · by_cases hz : d.zc ≤ 3
    · rw [if_pos hb, if_pos hz]
      exact ⟨rfl, rfl, rfl, rfl, fun _ => Nat.succ_le_of_lt (Nat.lt_succ_of_le hz),
        (Nat.add_assoc ..).symm, Nat.le_refl _⟩
    · rw [if_pos hb, if_neg hz]
      exact ⟨rfl, rfl, rfl, rfl, id, Nat.add_right_comm .., Nat.le_succ _⟩
  · rw [if_neg hb]
    exact ⟨rfl, rfl, rfl, rfl, fun _ => Nat.zero_le 4, by simp [Buf.len]; omega,
      by simp [Buf.len]; omega⟩

theorem grow_dataSteps (l : List UInt8) : ∀ d : Dec, Grow d (d.dataSteps l) l.length := by
  induction l with
  | nil => intro d; exact ⟨rfl, rfl, rfl, rfl, id, rfl, Nat.le_refl _⟩
  | cons b l ih =>
    intro d
    have := (grow_dataStep d b).trans (ih (d.dataStep b))
    rw [List.length_cons, Nat.add_comm]
    exact this

/-- the bytes accepted so far, newest first: buffer contents plus the cached zeros; this is `dd`
reversed, the form in which `dataStep` prepends (used to prove `dd_dataSteps`) -/
def pending (d : Dec) : List UInt8 := List.replicate d.zc 0 ++ d.buf.rdata

theorem pending_dataStep (d : Dec) (b : UInt8) : (d.dataStep b).pending = b :: d.pending := by
  unfold dataStep pending
  by_cases hb : b = 0
  · by_cases hz : d.zc ≤ 3
    · simp [hb, hz, List.replicate_succ]
    · simp only [hb, hz, if_true, if_false, setBuf_zc, setBuf_rdata]
      rw [← List.cons_append, ← List.replicate_succ, List.replicate_succ', List.append_assoc]
      rfl
  · simp [hb]

theorem pending_dataSteps (l : List UInt8) : ∀ d : Dec,
    (d.dataSteps l).pending = l.reverse ++ d.pending := by
  induction l with
  | nil => intro d; rfl
  | cons b l ih => intro d; simp [ih, pending_dataStep]

theorem room_dataNeed_iff (d : Dec) (b : UInt8) :
    d.room (d.dataNeed b) ↔ (d.dataStep b).buf.WF := by
  unfold dataNeed dataStep room Buf.WF
  by_cases hb : b = 0
  · by_cases hz : d.zc ≤ 3
    · simp [hb, hz, Buf.len]
    · simp [hb, hz, Buf.len]
  · simp only [hb, if_false]
    have : d.buf.rdata.length + (d.zc + 1)
        = (b :: (List.replicate d.zc (0 : UInt8) ++ d.buf.rdata)).length := by simp; omega
    show fitsCap d.buf.cap (d.buf.rdata.length + (d.zc + 1)) ↔
      fitsCap d.buf.cap (b :: (List.replicate d.zc (0 : UInt8) ++ d.buf.rdata)).length
    rw [this]

theorem wf_of_grow {d d' : Dec} {k : Nat} (h : Grow d d' k) (hwf : d'.buf.WF) : d.buf.WF := by
  unfold Buf.WF fitsCap at *
  rw [h.cap] at hwf
  have := h.mono
  cases hc : d.buf.cap with
  | none => trivial
  | some c => simp only [hc] at hwf ⊢; omega

theorem pushList_eq (l : List UInt8) : ∀ {d : Dec}, d.buf.WF →
    d.pushList l = if (d.dataSteps l).buf.WF then .ok (d.dataSteps l) else .oom := by
  induction l with
  | nil =>
    intro d hwf
    simp only [dataSteps_nil, hwf, if_true]
    rfl
  | cons b l ih =>
    intro d hwf
    unfold pushList
    rw [pushData_eq hwf, dataSteps_cons]
    by_cases h : d.room (d.dataNeed b)
    · simp only [h, if_true]
      exact ih ((room_dataNeed_iff d b).1 h)
    · simp only [h, if_false]
      rw [if_neg]
      intro hw
      exact h ((room_dataNeed_iff d b).2 (wf_of_grow (grow_dataSteps l _) hw))

theorem pushData_eq_pushList (d : Dec) (b : UInt8) : d.pushData b = d.pushList [b] := by
  unfold pushList pushList
  cases d.pushData b <;> rfl

theorem pushRep_eq_pushList (x : UInt8) (n : Nat) : ∀ d : Dec,
    d.pushRep x n = d.pushList (List.replicate n x) := by
  induction n with
  | zero => intro d; rfl
  | succ n ih =>
    intro d
    rw [List.replicate_succ]
    unfold pushRep pushList
    cases d.pushData x with
    | ok d' => exact ih d'
    | oom => rfl
    | panic s => rfl

theorem pushList_cases (l : List UInt8) : ∀ d : Dec,
    d.pushList l = .ok (d.dataSteps l) ∨ d.pushList l = .oom := by
  induction l with
  | nil => intro d; exact Or.inl rfl
  | cons b l ih =>
    intro d
    unfold pushList
    rw [pushData_closed]
    by_cases h : (b = 0 ∧ d.zc ≤ 3) ∨ d.room (d.dataNeed b)
    · simp only [if_pos h, dataSteps_cons]; exact ih _
    · right; simp only [if_neg h]

/-- "decoded data": the logical payload decoded so far, buffer contents, then the withheld zeros -/
def dd (d : Dec) : List UInt8 := d.buf.data ++ List.replicate d.zc 0

theorem length_dd (d : Dec) : d.dd.length = d.buf.rdata.length + d.zc := by
  simp [dd, Buf.data]

theorem dd_eq_pending (d : Dec) : d.dd = d.pending.reverse := by
  simp [dd, pending, Buf.data]

theorem dd_dataSteps (d : Dec) (l : List UInt8) : (d.dataSteps l).dd = d.dd ++ l := by
  rw [dd_eq_pending, pending_dataSteps, dd_eq_pending, List.reverse_append, List.reverse_reverse]

/-- How to establish a property of `afterPush d0 (d.pushList l) k`: for every state that differs
from `d` by `l` appended to the logical payload, and for the out-of-memory answer. -/
theorem afterPush_pushList_cases {P : Dec × Res → Prop} {d0 d : Dec} {l : List UInt8}
    {k : Dec → Dec × Res}
    (hok : ∀ d', d'.raw = d.raw ∧ d'.crc = d.crc ∧ d'.st = d.st ∧ d'.dd = d.dd ++ l → P (k d'))
    (hoom : P ((d0.reset).1, .err .oom)) : P (afterPush d0 (d.pushList l) k) := by
  rcases pushList_cases l d with h | h
  · rw [h]
    have g := grow_dataSteps l d
    exact hok _ ⟨g.raw, g.crc, g.st, dd_dataSteps d l⟩
  · rw [h]; exact hoom

theorem afterPush_pushList_append (d0 : Dec) (k : Dec → Dec × Res) (l m : List UInt8) :
    ∀ d : Dec, afterPush d0 (d.pushList (l ++ m)) k =
      afterPush d0 (d.pushList l) fun d' => afterPush d0 (d'.pushList m) k := by
  induction l with
  | nil => intro d; rfl
  | cons b l ih =>
    intro d
    show afterPush d0 (match d.pushData b with | .ok d' => pushList d' (l ++ m) | r => r) k =
      afterPush d0 (match d.pushData b with | .ok d' => pushList d' l | r => r) _
    cases d.pushData b with
    | ok d' => exact ih d'
    | oom => rfl
    | panic s => rfl

/-- the three shapes in which `pushByte` sequences data pushes are one `pushList` -/
theorem afterPush_rep_data (d0 d : Dec) (x b : UInt8) (n : Nat) (k : Dec → Dec × Res) :
    (afterPush d0 (d.pushRep x n) fun d' => afterPush d0 (d'.pushData b) k) =
      afterPush d0 (d.pushList (List.replicate n x ++ [b])) k := by
  rw [afterPush_pushList_append, pushRep_eq_pushList]
  simp only [pushData_eq_pushList]

/-! The layer as a sequence of `PushRes` steps.  `Dec.pushEnd` does not call `afterPush` but spells
it out as a `match` on the `Option` that `flush` returns; each simulation therefore treats that
`match` on its own (`flushDone_relS` in DecCap, inside `pushEnd_sim` / `pushEnd_rel` in DecArrRefine
and DecFallible). -/

/-- A relation between the values of two functions with the same `if` is proved branch by branch,
    without `split`ting a goal that contains both functions. -/
theorem _root_.Sml.rel_ite {α β : Type} (R : α → β → Prop) {p : Prop} [Decidable p] {x x' : α} {y y' : β}
    (h1 : R x y) (h2 : R x' y') : R (if p then x else x') (if p then y else y') := by
  split <;> assumption

/-- the same for a property of one value; the branches may use the condition -/
theorem _root_.Sml.prop_ite {α : Type} (P : α → Prop) {p : Prop} [Decidable p] {x y : α}
    (h1 : p → P x) (h2 : ¬ p → P y) : P (if p then x else y) := iteInduction h1 h2

def ofOpt : Option Dec → PushRes
  | some d => .ok d
  | none => .oom

theorem pushZeros_succ (d : Dec) (n : Nat) :
    ofOpt (d.pushZeros (n + 1)) =
      match ofOpt (d.pushInner 0) with
      | .ok d' => ofOpt (d'.pushZeros n)
      | r => r := by
  cases h : d.pushInner 0 <;> simp only [pushZeros, h, ofOpt]

theorem flush_pushRes (d : Dec) :
    ofOpt d.flush =
      match ofOpt (d.pushZeros d.zc) with
      | .ok d' => .ok { d' with zc := 0 }
      | r => r := by
  cases h : d.pushZeros d.zc <;> simp only [flush, h, ofOpt]

theorem pushData_pushRes (d : Dec) (b : UInt8) :
    d.pushData b =
      if b = 0 then
        if d.zc ≤ 3 then
          if d.zc + 1 > 255 then .panic "decode.rs:421 zero_cache overflow"
          else .ok { d with zc := d.zc + 1 }
        else ofOpt (d.pushInner b)
      else
        match ofOpt d.flush with
        | .ok d' => ofOpt (d'.pushInner b)
        | r => r := by
  unfold pushData
  cases d.flush <;> cases d.pushInner b <;> rfl

end Dec

end Sml
