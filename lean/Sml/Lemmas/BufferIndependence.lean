import Sml.Props.C15
/-
  Property C15, "the buffer type does not change any result as long as its capacity is never
  exceeded": a decoder over a `Vec<u8>` never reports `OutOfMemory` (`Dec.pushAll_noOom`), and an
  `ArrayBuf<N>` gives the results of a `Vec<u8>` up to the first `OutOfMemory` it reports
  (`C15.fresh_rel`), whatever the relation between `N` and the stream length.
-/
namespace Sml

namespace Dec

/-- A decoder over a `Vec<u8>` (`cap = none`: `try_reserve` is assumed never to fail) never reports
`OutOfMemory` (`Dec.push_none_ne_oom`, which needs no invariant; `Inv` only carries the capacity along). -/
theorem pushAll_noOom (s : List UInt8) : ∀ {d : Dec}, Inv d → d.buf.cap = none →
    Out.err DecErr.oom ∉ (d.pushAll s).2 := by
  induction s with
  | nil => intro d _ _; simp [pushAll_nil]
  | cons b bs ih =>
    intro d h hc hm
    rw [pushAll_consR] at hm
    rcases List.mem_cons.1 hm with hm | hm
    · exact push_none_ne_oom hc b hm.symm
    · exact ih (push_inv h b) ((push_cap h b).trans hc) hm

end Dec

namespace C15

/-- what `pushAll_rel` says about a new decoder: the `ArrayBuf<N>` run is the `Vec<u8>` run, or
there is an index `i` up to which the outputs agree and where the bounded decoder reports
`OutOfMemory` -/
theorem fresh_rel (s : List UInt8) (N : Nat) :
    ((Dec.pushAll (Dec.fresh (some N)) s).2 = (Dec.pushAll (Dec.fresh none) s).2 ∧
      (Dec.pushAll (Dec.fresh (some N)) s).1 =
        (Dec.pushAll (Dec.fresh none) s).1.withCapR (some N)) ∨
    ∃ i, i < s.length ∧
      (∀ j < i, (Dec.pushAll (Dec.fresh (some N)) s).2[j]? = (Dec.pushAll (Dec.fresh none) s).2[j]?) ∧
      (Dec.pushAll (Dec.fresh (some N)) s).2[i]? = some (Out.err DecErr.oom) := by
  have e : Dec.fresh (some N) = (Dec.fresh none).withCapR (some N) := rfl
  rcases Dec.pushAll_rel (some N) s (Dec.fresh none) rfl (Nat.zero_le N) with ⟨g1, _⟩ | ⟨i, hi, g1, _⟩
  · left
    rw [e, g1]
    exact ⟨rfl, rfl⟩
  · right
    rw [← e, Dec.pushAll_take, Dec.pushAll_take] at g1
    have hlU : ((Dec.pushAll (Dec.fresh none) s).2.take i).length = i := by
      rw [List.length_take, Dec.pushAll_length]; omega
    refine ⟨i, hi, ?_, ?_⟩
    · intro j hj
      have h1 : ((Dec.pushAll (Dec.fresh (some N)) s).2.take (i + 1))[j]? =
          (Dec.pushAll (Dec.fresh (some N)) s).2[j]? := List.getElem?_take_of_lt (by omega)
      have h2 : ((Dec.pushAll (Dec.fresh none) s).2.take i)[j]? =
          (Dec.pushAll (Dec.fresh none) s).2[j]? := List.getElem?_take_of_lt hj
      rw [← h1, g1, List.getElem?_append_left (by omega), h2]
    · have h1 : ((Dec.pushAll (Dec.fresh (some N)) s).2.take (i + 1))[i]? =
          (Dec.pushAll (Dec.fresh (some N)) s).2[i]? := List.getElem?_take_of_lt (by omega)
      rw [← h1, g1, List.getElem?_append_right (by omega), hlU]
      simp

/-- "The buffer type does not change any result as long as its capacity is never exceeded":
if the decoder over an `ArrayBuf<N>` never reports `OutOfMemory` on the stream `s` (whatever `N`
and `|s|`), all its `push_byte` results and its `finalize` result are those of the decoder over a
`Vec<u8>`. -/
theorem buffer_independent_noOom (s : List UInt8) (N : Nat)
    (h : Out.err DecErr.oom ∉ (Dec.pushAll (Dec.fresh (some N)) s).2) :
    (Dec.pushAll (Dec.fresh (some N)) s).2 = (Dec.pushAll (Dec.fresh none) s).2 ∧
    (Dec.pushAll (Dec.fresh (some N)) s).1.finalize.2 =
      (Dec.pushAll (Dec.fresh none) s).1.finalize.2 := by
  rcases fresh_rel s N with ⟨h1, h2⟩ | ⟨i, _, _, hi⟩
  · exact ⟨h1, by rw [h2]; rfl⟩
  · exact absurd (List.mem_of_getElem? hi) h

/-- at the first index where the results of `ArrayBuf<N>` and `Vec<u8>` differ, the bounded decoder
reports `OutOfMemory` -/
theorem first_difference_is_oom (s : List UInt8) (N : Nat) (i : Nat)
    (hsame : ∀ j < i,
      (Dec.pushAll (Dec.fresh (some N)) s).2[j]? = (Dec.pushAll (Dec.fresh none) s).2[j]?)
    (hdiff : (Dec.pushAll (Dec.fresh (some N)) s).2[i]? ≠ (Dec.pushAll (Dec.fresh none) s).2[i]?) :
    (Dec.pushAll (Dec.fresh (some N)) s).2[i]? = some (Out.err DecErr.oom) := by
  rcases fresh_rel s N with ⟨h1, _⟩ | ⟨i0, _, hlt, hi0⟩
  · rw [h1] at hdiff; exact absurd rfl hdiff
  · rcases Nat.lt_trichotomy i i0 with hlt' | heq | hgt
    · exact absurd (hlt i hlt') hdiff
    · rw [heq]; exact hi0
    · exfalso
      have := hsame i0 hgt
      rw [hi0] at this
      exact Dec.pushAll_noOom s (Dec.inv_fresh none) rfl (List.mem_of_getElem? this.symm)

theorem vec_no_oom (s : List UInt8) : Out.err DecErr.oom ∉ (Dec.pushAll (Dec.fresh none) s).2 :=
  Dec.pushAll_noOom s (Dec.inv_fresh none) rfl

/-- the outputs differ iff the bounded decoder reports `OutOfMemory` somewhere -/
theorem differ_iff_oom (s : List UInt8) (N : Nat) :
    (Dec.pushAll (Dec.fresh (some N)) s).2 ≠ (Dec.pushAll (Dec.fresh none) s).2 ↔
      Out.err DecErr.oom ∈ (Dec.pushAll (Dec.fresh (some N)) s).2 := by
  constructor
  · intro hne
    apply Classical.byContradiction
    intro h
    exact hne (buffer_independent_noOom s N h).1
  · intro hm he
    rw [he] at hm
    exact vec_no_oom s hm

/-- if the outputs differ there is a first index where they do; there the bounded decoder reports
`OutOfMemory` (and the `Vec<u8>` decoder something else) -/
theorem first_difference_exists (s : List UInt8) (N : Nat)
    (hne : (Dec.pushAll (Dec.fresh (some N)) s).2 ≠ (Dec.pushAll (Dec.fresh none) s).2) :
    ∃ i, i < s.length ∧
      (∀ j < i,
        (Dec.pushAll (Dec.fresh (some N)) s).2[j]? = (Dec.pushAll (Dec.fresh none) s).2[j]?) ∧
      (Dec.pushAll (Dec.fresh (some N)) s).2[i]? = some (Out.err DecErr.oom) ∧
      (Dec.pushAll (Dec.fresh none) s).2[i]? ≠ some (Out.err DecErr.oom) := by
  rcases fresh_rel s N with ⟨h1, _⟩ | ⟨i, hi, hlt, hi0⟩
  · exact absurd h1 hne
  · exact ⟨i, hi, hlt, hi0, fun hc => vec_no_oom s (List.mem_of_getElem? hc)⟩

/-- all front-ends (`reference`, see `iter_eq`, `reader_eq`, `decode_eq`) over an `ArrayBuf<N>`
that never reports `OutOfMemory` on `s` report the `Vec<u8>` reference -/
theorem reference_buffer_independent_noOom (s : List UInt8) (N : Nat)
    (h : Out.err DecErr.oom ∉ (Dec.pushAll (Dec.fresh (some N)) s).2) :
    reference (some N) s = reference none s :=
  reference_congr (buffer_independent_noOom s N h).1 (buffer_independent_noOom s N h).2

/-- `sample` has 31 bytes (noise, the frame of a 4-byte payload, an unfinished frame); an
`ArrayBuf<4>` never runs out of memory on it, so `buffer_independent_noOom` applies although
`buffer_independent` (`31 ≤ N`) does not -/
example : Out.err DecErr.oom ∉ (Dec.pushAll (Dec.fresh (some 4)) sample).2 := by decide +kernel

example : (Dec.pushAll (Dec.fresh (some 4)) sample).2 = (Dec.pushAll (Dec.fresh none) sample).2 ∧
    (Dec.pushAll (Dec.fresh (some 4)) sample).1.finalize.2 =
      (Dec.pushAll (Dec.fresh none) sample).1.finalize.2 := by decide +kernel

/-- `ArrayBuf<3>`: the outputs agree up to index 12 and differ at index 13, where the bounded
decoder reports `OutOfMemory` (hypotheses of `first_difference_is_oom` / `first_difference_exists`) -/
example : (Dec.pushAll (Dec.fresh (some 3)) sample).2.take 13 =
      (Dec.pushAll (Dec.fresh none) sample).2.take 13 ∧
    (Dec.pushAll (Dec.fresh (some 3)) sample).2[13]? = some (Out.err DecErr.oom) ∧
    (Dec.pushAll (Dec.fresh none) sample).2[13]? = some Out.none := by decide +kernel

end C15

end Sml
