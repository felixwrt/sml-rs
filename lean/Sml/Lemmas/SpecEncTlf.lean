import Sml.Spec.Encoder
import Sml.Lemmas.TlfNum
/-
  Canonical encoder, type-length fields: `encTlf extra ty len` is a complete field denoting
  `(ty, len)`, whatever the number of extra continuation bytes (`C03.enc_sound_tlf`).  `parseTlf` is
  run on a generated field (`parseTlf_field`): the loop appends the nibbles of the value.
-/
namespace Sml.SpecEnc
open Sml Sml.Spec

theorem tlfByte_toNat (m : Bool) (t d : Nat) (ht : t < 8) :
    (tlfByte m t d).toNat = (if m then 128 else 0) + t * 16 + d % 16 := by
  have := Nat.mod_lt d (show 0 < 16 by decide)
  simp only [tlfByte, UInt8.toNat_ofNat']
  cases m <;> simp <;> omega

theorem tlfByte_more (m : Bool) (t d : Nat) (ht : t < 8) : tlfMore (tlfByte m t d) = m := by
  rw [C12.more_bridge, more, tlfByte_toNat m t d ht]
  have := Nat.mod_lt d (show 0 < 16 by decide)
  cases m <;> simp <;> omega

theorem tlfByte_nib (m : Bool) (t d : Nat) (ht : t < 8) : nib (tlfByte m t d) = d % 16 := by
  rw [nib, tlfByte_toNat m t d ht]
  cases m <;> simp <;> omega

theorem tlfByte_tyBits (m : Bool) (t d : Nat) (ht : t < 8) : tyBits (tlfByte m t d) = t := by
  rw [tyBits, tlfByte_toNat m t d ht]
  have := Nat.mod_lt d (show 0 < 16 by decide)
  cases m <;> simp <;> omega

theorem tlfByte_cont (m : Bool) (d : Nat) : tlfTyBits (tlfByte m 0 d) = 0 :=
  (C12.tyz_bridge _).2 (tlfByte_tyBits m 0 d (by decide))

theorem tyCode_lt (ty : Ty) : tyCode ty < 8 := by cases ty <;> decide

theorem tlfByte_ofBits (m : Bool) (ty : Ty) (d : Nat) :
    Ty.ofBits (tlfTyBits (tlfByte m (tyCode ty) d)) = .ok ty := by
  rw [C12.ofBits_bridge, tlfByte_tyBits m _ d (tyCode_lt ty)]
  cases ty <;> rfl

/-- the loop on the last `m + 1` bytes of a generated field: the value read so far is `v` without
    its low `m + 1` nibbles, and each byte appends the next one -/
theorem tlfLoop_tlfTail (v : Nat) (r : Bytes) (hv : v ≤ u32Max) : ∀ m n,
    tlfLoop (v / 16 ^ (m + 1)) n (tlfTail v (m + 1) ++ r) = .ok (v, n + (m + 1), r) := by
  intro m
  induction m with
  | zero =>
    intro n
    rw [tlfTail, tlfTail, List.singleton_append, C12.tlfLoop_cons, if_neg (by simp [tlfByte_cont]),
      if_neg (by simp only [Nat.zero_add, Nat.pow_one]; omega),
      if_neg (by rw [tlfByte_more _ _ _ (by decide)]; simp), tlfByte_nib _ _ _ (by decide)]
    simp only [Nat.zero_add, Nat.pow_one, Nat.pow_zero, Nat.div_one, Nat.div_add_mod']
  | succ m ih =>
    intro n
    have hq : v / 16 ^ (m + 1 + 1) = v / 16 ^ (m + 1) / 16 := by
      rw [Nat.pow_succ, Nat.div_div_eq_div_mul]
    have := Nat.div_le_self v (16 ^ (m + 1))
    rw [tlfTail, List.cons_append, C12.tlfLoop_cons, if_neg (by simp [tlfByte_cont]),
      if_neg (by omega), if_pos (by rw [tlfByte_more _ _ _ (by decide)]; simp),
      tlfByte_nib _ _ _ (by decide), show _ * 16 + _ % 16 = v / 16 ^ (m + 1) by omega, ih]
    simp only [Nat.add_assoc, Nat.add_comm 1]

/-- `parseTlf` on a generated field of `m + 1` bytes with value `v`, whatever follows.
    `hs`: a field that is not a list counts its own `m + 1` bytes in the value -/
theorem parseTlf_field (ty : Ty) (m v : Nat) (r : Bytes) (hb : ty = .boolean → m = 0)
    (hv : v < 16 ^ (m + 1)) (h32 : v ≤ u32Max) (hs : ty ≠ .listOf → m + 1 ≤ v) :
    parseTlf (tlfField ty m v ++ r) = .ok (⟨ty, if ty = .listOf then v else v - (m + 1)⟩, r) := by
  have hdiv : v / 16 ^ m % 16 = v / 16 ^ m := Nat.mod_eq_of_lt (by
    rw [Nat.div_lt_iff_lt_mul (Nat.pow_pos (by decide)), Nat.mul_comm, ← Nat.pow_succ]
    exact hv)
  -- the loop, entered or not, returns the value `v` after `m + 1` bytes
  have hloop : (if tlfMore (tlfByte (m ≠ 0) (tyCode ty) (v / 16 ^ m)) = true then
        tlfLoop (nib (tlfByte (m ≠ 0) (tyCode ty) (v / 16 ^ m))) 1 (tlfTail v m ++ r)
      else .ok (nib (tlfByte (m ≠ 0) (tyCode ty) (v / 16 ^ m)), 1, tlfTail v m ++ r)) =
      .ok (v, m + 1, r) := by
    rw [tlfByte_more _ _ _ (tyCode_lt ty), tlfByte_nib _ _ _ (tyCode_lt ty), hdiv]
    cases m with
    | zero => simp [tlfTail]
    | succ k => rw [if_pos (by simp), tlfLoop_tlfTail v r h32, Nat.add_comm 1]
  rw [tlfField, List.cons_append, parseTlf, tlfByte_ofBits, C12.nib_bridge]
  simp only
  rw [if_neg (fun h => by
    rw [tlfByte_more _ _ _ (tyCode_lt ty)] at h
    have := hb h.1
    simp [this] at h), hloop]
  simp only
  by_cases hl : ty = .listOf
  · simp [hl]
  · have := hs hl
    rw [if_pos hl, if_neg (by omega), if_neg hl]

/-! `tlfSizeFrom` here, `minWidthU` and `minWidthS` in SpecEncNum are three spellings of "the first
  `n ≥ start` with `P n`, giving up after `fuel` candidates"; what the proofs need of them are
  `firstFrom_mem` and `firstFrom_le`, with the bound a variable. -/

/-- the first `n` in `start, start+1, …` with `P n`; `start + fuel` if the first `fuel` all fail -/
def firstFrom (P : Nat → Prop) [DecidablePred P] : Nat → Nat → Nat
  | 0, n => n
  | fuel + 1, n => if P n then n else firstFrom P fuel (n + 1)

section
variable (P : Nat → Prop) [DecidablePred P]

theorem firstFrom_mem : ∀ fuel n, P (n + fuel) →
    n ≤ firstFrom P fuel n ∧ firstFrom P fuel n ≤ n + fuel ∧ P (firstFrom P fuel n) := by
  intro fuel
  induction fuel with
  | zero => intro n h; exact ⟨Nat.le_refl _, Nat.le_refl _, h⟩
  | succ fuel ih =>
    intro n h
    rw [firstFrom]
    split
    · exact ⟨Nat.le_refl _, by omega, ‹_›⟩
    · have := ih (n + 1) (by rwa [Nat.add_right_comm, Nat.add_assoc])
      exact ⟨by omega, by omega, this.2.2⟩

theorem firstFrom_le : ∀ fuel n s, n ≤ s → P s → firstFrom P fuel n ≤ s := by
  intro fuel
  induction fuel with
  | zero => intro n s h _; exact h
  | succ fuel ih =>
    intro n s h hs
    rw [firstFrom]
    split
    · exact h
    · rename_i hn
      exact ih (n + 1) s (Nat.lt_of_le_of_ne h (fun e => hn (e ▸ hs))) hs

/-- the fewest bytes (searched in 1 … 8) for an admissibility `P` that is monotone in the width:
    every width from there up to an admissible `size` is admissible -/
theorem fewest_spec (hmono : ∀ a b, 1 ≤ a → a ≤ b → P a → P b) (size : Nat)
    (hs : 1 ≤ size ∧ size ≤ 8) (hP : P size) :
    1 ≤ firstFrom P 7 1 ∧ firstFrom P 7 1 ≤ size ∧ ∀ w, firstFrom P 7 1 ≤ w → P w := by
  obtain ⟨m1, _, m3⟩ := firstFrom_mem P 7 1 (hmono size 8 hs.1 hs.2 hP)
  exact ⟨m1, firstFrom_le P 7 1 size hs.1 hP, fun w hw => hmono _ w m1 hw m3⟩

end

theorem tlfSizeFrom_eq (self : Bool) (len : Nat) : ∀ fuel n,
    tlfSizeFrom self len fuel n =
      firstFrom (fun n => len + (if self then n else 0) < 16 ^ n) fuel n := by
  intro fuel
  induction fuel with
  | zero => intro n; rfl
  | succ fuel ih => intro n; rw [tlfSizeFrom, firstFrom, ih]

/-- `self`: the field counts itself, and 8 bytes always suffice -/
theorem tlfSize_spec (self : Bool) (len : Nat) (h : len + (if self then 8 else 0) ≤ u32Max) :
    1 ≤ tlfSize self len ∧ tlfSize self len ≤ 8 ∧
      len + (if self then tlfSize self len else 0) < 16 ^ tlfSize self len := by
  have := firstFrom_mem (fun n => len + (if self then n else 0) < 16 ^ n) 7 1
    (by simp only [u32Max] at h; cases self <;> simp at h ⊢ <;> omega)
  simpa [tlfSize, tlfSizeFrom_eq] using this

theorem add_lt_pow16 (a n : Nat) (h : a < 16 ^ n) : ∀ k, a + k < 16 ^ (n + k) := by
  intro k
  induction k with
  | zero => exact h
  | succ k ih =>
    rw [← Nat.add_assoc, ← Nat.add_assoc, Nat.pow_succ]
    generalize 16 ^ (n + k) = Q at *
    omega

/-- the first byte of a generated field is not the "absent" marker `01`, except for the shortest
    field of an empty octet string -/
theorem encTlf_head (extra : Nat) (ty : Ty) (len : Nat) (rest : Bytes)
    (h : ty ≠ .octetString ∨ len ≠ 0 ∨ extra ≠ 0) (hl : ty = .octetString → len + 8 ≤ u32Max) :
    (encTlf extra ty len ++ rest).head? ≠ some 0x01 := by
  -- the byte `01`: no continuation bit, type bits 000, nibble 1
  have key : ∀ m v, (ty ≠ .octetString ∨ m ≠ 0 ∨ v % 16 ≠ 1) →
      (tlfField ty m v ++ rest).head? ≠ some 0x01 := by
    intro m v hh hc
    simp only [tlfField, List.cons_append, List.head?_cons, Option.some.injEq] at hc
    have hmore := congrArg tlfMore hc
    have hty := congrArg tyBits hc
    have hnib := congrArg nib hc
    rw [tlfByte_more _ _ _ (tyCode_lt ty), show tlfMore 1 = false from rfl] at hmore
    rw [tlfByte_tyBits _ _ _ (tyCode_lt ty), show tyBits 1 = 0 from rfl] at hty
    rw [tlfByte_nib _ _ _ (tyCode_lt ty), show nib 1 = 1 from rfl] at hnib
    have hm : m = 0 := by simpa using hmore
    subst hm
    rcases hh with hh | hh | hh
    · exact hh (by cases ty <;> first | rfl | cases hty)
    · exact hh rfl
    · exact hh (by simpa using hnib)
  unfold encTlf
  split
  · rename_i hlo
    exact key _ _ (Or.inl (by rw [hlo]; decide))
  · simp only
    by_cases hty : ty = .octetString
    · obtain ⟨h1, h2, h3⟩ := tlfSize_spec true len (hl hty)
      simp only [if_true] at h3
      generalize tlfSize true len = n at *
      apply key
      by_cases hm : n - 1 + min extra (u32Max - (len + n)) = 0
      · right; right
        obtain ⟨hn, he⟩ := Nat.add_eq_zero_iff.1 hm
        obtain rfl : n = 1 := Nat.le_antisymm (Nat.le_of_sub_eq_zero hn) h1
        have he : extra = 0 := by simp only [u32Max] at he hl ⊢; have := hl hty; omega
        have : len ≠ 0 := by
          rcases h with h | h | h
          · exact absurd hty h
          · exact h
          · exact absurd he h
        simp only [Nat.pow_one] at h3
        omega
      · right; left; exact hm
    · exact key _ _ (Or.inl hty)

theorem encTlf_head_of_ne (extra : Nat) {ty : Ty} (len : Nat) (rest : Bytes)
    (hty : ty ≠ .octetString) : (encTlf extra ty len ++ rest).head? ≠ some 0x01 :=
  encTlf_head extra ty len rest (Or.inl hty) (fun h => absurd h hty)

end Sml.SpecEnc

namespace Sml.C03
open Sml Sml.Spec

/-- type-length fields: shortest form plus any number of extra continuation bytes; a list may
    announce up to 2^32-1 elements, any other field up to 2^32-9 bytes -/
theorem enc_sound_tlf (extra : Nat) (ty : Ty) (len : Nat) (hb : ty ≠ .boolean)
    (h : if ty = .listOf then len ≤ u32Max else len + 8 ≤ u32Max) :
    EncTlf ⟨ty, len⟩ (encTlf extra ty len) := by
  refine (C12.encTlf_iff _ _).2 ?_
  unfold encTlf
  -- the field has `m + 1 = n + k` bytes: the fewest `n` and `k` more
  have hm : ∀ {n : Nat} (k : Nat), 1 ≤ n → n - 1 + k + 1 = n + k := fun k h1 => by
    rw [Nat.add_right_comm, Nat.sub_add_cancel h1]
  by_cases hl : ty = .listOf
  · rw [if_pos hl] at h ⊢
    obtain ⟨h1, _, h3⟩ := SpecEnc.tlfSize_spec false len h
    have := SpecEnc.parseTlf_field ty (tlfSize false len - 1 + extra) len [] (fun hh => absurd hh hb)
      (hm extra h1 ▸ Nat.lt_of_le_of_lt (Nat.le_add_right _ _) (SpecEnc.add_lt_pow16 len _ h3 extra))
      h (fun hh => absurd hl hh)
    rwa [if_pos hl, List.append_nil] at this
  · rw [if_neg hl] at h ⊢
    obtain ⟨h1, h2, h3⟩ := SpecEnc.tlfSize_spec true len h
    simp only [if_true] at h3
    simp only
    generalize tlfSize true len = n at *
    generalize hk : min extra (u32Max - (len + n)) = k
    have hk' : len + n + k ≤ u32Max := by omega
    have := SpecEnc.parseTlf_field ty (n - 1 + k) (len + n + k) [] (fun hh => absurd hh hb)
      (hm k h1 ▸ SpecEnc.add_lt_pow16 (len + n) _ h3 k) hk'
      (fun _ => hm k h1 ▸ Nat.add_assoc len n k ▸ Nat.le_add_left _ _)
    rwa [if_neg hl, hm k h1, show len + n + k - (n + k) = len by
      rw [Nat.add_assoc, Nat.add_sub_cancel], List.append_nil] at this

end Sml.C03
