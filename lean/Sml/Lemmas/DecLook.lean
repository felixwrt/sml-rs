import Sml.Model.Decode
/-
  The start-sequence matcher of `Dec.pushLook` as an automaton `Resync.delta` on the number of
  matched bytes, with the KMP invariant `Resync.Tracks` (the state is the length of the longest
  prefix of the start sequence that is a suffix of the bytes consumed so far); the matcher
  completes exactly when the consumed bytes end with the start sequence (`hit_iff`).  The invariant
  is kept (`tracks_step`) because it says which prefixes of the start sequence match at all
  (`Tracks.prefix_iff`), and `delta` is that one byte later (`delta_spec`, a finite check).
  `Dec.pushLook_eq` is `pushLook` in closed form over `delta`.
-/
namespace Sml
namespace Resync

/-- reversed prefix of length `j` of the start sequence -/
def pre : Nat → List UInt8
  | 0 => []
  | j + 1 => (if j < 4 then 0x1b else 0x01) :: pre j

def delta (k : Nat) (b : UInt8) : Nat :=
  if (b = 0x1b ∧ k < 4) ∨ (b = 0x01 ∧ k ≥ 4) then k + 1
  else if b = 0x1b then (if k = 4 then 4 else 1) else 0

theorem pre_succ_prefix (j : Nat) (b : UInt8) (r : List UInt8) :
    pre (j + 1) <+: b :: r ↔ b = (if j < 4 then 0x1b else 0x01) ∧ pre j <+: r := by
  rw [pre, List.cons_prefix_cons]
  constructor
  · rintro ⟨h1, h2⟩; exact ⟨h1.symm, h2⟩
  · rintro ⟨h1, h2⟩; exact ⟨h1.symm, h2⟩

/-- `k` is the length of the longest prefix of the start sequence that is a suffix of the bytes
consumed so far (`r` = those bytes, newest first), and the start sequence itself is not -/
structure Tracks (r : List UInt8) (k : Nat) : Prop where
  le : k ≤ 7
  sound : pre k <+: r
  max : ∀ j, j ≤ 8 → pre j <+: r → j ≤ k

theorem tracks_nil : Tracks [] 0 := by
  refine ⟨by omega, by simp [pre], ?_⟩
  intro j _ h
  cases j with
  | zero => omega
  | succ j => simp [pre] at h

theorem delta_eq_8 {k : Nat} {b : UInt8} : delta k b = 8 ↔ k = 7 ∧ b = 0x01 := by
  unfold delta
  constructor
  · intro h
    split at h
    · next hc =>
      have : k = 7 := by omega
      subst this
      rcases hc with ⟨_, hc⟩ | ⟨hc, _⟩
      · omega
      · exact ⟨rfl, hc⟩
    · split at h
      · split at h <;> omega
      · omega
  · rintro ⟨rfl, rfl⟩
    decide

theorem pre8 : pre 8 = START.reverse := by decide

/-- the matcher completes exactly when the consumed bytes end with the start sequence (`pre8`) -/
theorem hit_iff {r : List UInt8} {k : Nat} (h : Tracks r k) (b : UInt8) :
    delta k b = 8 ↔ pre 8 <+: b :: r := by
  rw [delta_eq_8, pre_succ_prefix]
  simp only [show ¬ (7 < 4) by omega, if_false]
  constructor
  · rintro ⟨rfl, rfl⟩; exact ⟨rfl, h.sound⟩
  · rintro ⟨hb, hp⟩
    have := h.max 7 (by omega) hp
    have := h.le
    exact ⟨by omega, hb⟩

theorem delta_le (k : Nat) (b : UInt8) : delta k b ≤ k + 1 ∧ (delta k b = k + 1 ∨ delta k b ≤ 4) := by
  unfold delta
  by_cases hc : (b = 0x1b ∧ k < 4) ∨ (b = 0x01 ∧ k ≥ 4)
  · rw [if_pos hc]; omega
  · rw [if_neg hc]
    by_cases hb : b = 0x1b
    · rw [if_pos hb]
      by_cases h4 : k = 4
      · rw [if_pos h4]; omega
      · rw [if_neg h4]; omega
    · rw [if_neg hb]; omega

theorem length_pre (j : Nat) : (pre j).length = j := by
  induction j with
  | zero => rfl
  | succ j ih => rw [pre, List.length_cons, ih]

/-- among the (reversed) prefixes of the start sequence only the runs of 0x1b contain shorter ones -/
theorem pre_prefix_pre : ∀ k ≤ 8, ∀ j ≤ k, (pre j <+: pre k ↔ k ≤ 4 ∨ j = 0 ∨ j = k) := by decide

/-- which prefixes of the start sequence the consumed bytes end with -/
theorem Tracks.prefix_iff {r : List UInt8} {k : Nat} (h : Tracks r k) {j : Nat} (hj : j ≤ 8) :
    pre j <+: r ↔ j ≤ k ∧ (k ≤ 4 ∨ j = 0 ∨ j = k) := by
  have hk8 : k ≤ 8 := Nat.le_trans h.le (by decide)
  constructor
  · intro hp
    have hjk := h.max j hj hp
    exact ⟨hjk, (pre_prefix_pre k hk8 j hjk).1
      (List.prefix_of_prefix_length_le hp h.sound (by rw [length_pre, length_pre]; exact hjk))⟩
  · rintro ⟨hjk, hc⟩
    exact ((pre_prefix_pre k hk8 j hjk).2 hc).trans h.sound

/-- the transition `delta` on a byte of the start sequence, in terms of which prefixes match
(`Tracks.prefix_iff` before and after the byte) -/
theorem delta_spec : ∀ b ∈ [(0x1b : UInt8), 0x01], ∀ k ≤ 7, ∀ j ≤ 7,
    ((b = if j < 4 then 0x1b else 0x01) ∧ j ≤ k ∧ (k ≤ 4 ∨ j = 0 ∨ j = k) ↔
      j + 1 ≤ delta k b ∧ (delta k b ≤ 4 ∨ j + 1 = delta k b)) := by decide

theorem tracks_step {r : List UInt8} {k : Nat} (h : Tracks r k) (b : UInt8) (h8 : delta k b ≠ 8) :
    Tracks (b :: r) (delta k b) := by
  have hk := h.le
  have hd := delta_le k b
  -- the characterisation `Tracks.prefix_iff`, one byte later
  have key : ∀ j, j ≤ 8 → (pre j <+: b :: r ↔
      j ≤ delta k b ∧ (delta k b ≤ 4 ∨ j = 0 ∨ j = delta k b)) := by
    intro j hj
    cases j with
    | zero => simp [pre]
    | succ j =>
      rw [pre_succ_prefix, h.prefix_iff (by omega)]
      by_cases hb : b = 0x1b ∨ b = 0x01
      · rw [delta_spec b (by simpa using hb) k hk j (by omega)]
        omega
      · -- any other byte matches nothing
        have h0 : delta k b = 0 := by
          unfold delta
          rw [if_neg (fun hc => hb (hc.elim (fun h => .inl h.1) (fun h => .inr h.1))),
            if_neg (fun h1 => hb (.inl h1))]
        rw [h0]
        constructor
        · rintro ⟨h1, _⟩
          exact absurd (by split at h1 <;> simp [h1]) hb
        · omega
  exact ⟨by omega, (key _ (by omega)).2 ⟨Nat.le_refl _, Or.inr (Or.inr rfl)⟩,
    fun j hj hp => ((key j hj).1 hp).1⟩

end Resync

open Resync in
/-- one byte in state `LookingForMessageStart`: the matcher moves to `delta k b`; the counter
overflow of decode.rs:186 needs `k ≥ 255`, the subtraction of decode.rs:196 never overflows -/
theorem Dec.pushLook_eq (d : Dec) (disc k : Nat) (b : UInt8) :
    Dec.pushLook d disc k b =
      if delta k b > 255 then (d, .panic "decode.rs:186 num_init_seq_bytes overflow")
      else if delta k b = 8 then
        ({ d with st := .normal, raw := 8, crc := startCrc },
          if disc > 0 then .err (.discarded disc) else .more)
      else ({ d with st := .look (disc + (1 + k - delta k b)) (delta k b) }, .more) := by
  unfold delta Dec.pushLook
  by_cases hc : (b = 0x1b ∧ k < 4) ∨ (b = 0x01 ∧ k ≥ 4)
  · simp only [if_pos hc]
    by_cases h255 : k + 1 > 255
    · rw [if_pos h255, if_pos h255]
    · rw [if_neg h255, if_neg h255]
      by_cases h8 : k + 1 = 8
      · rw [if_pos h8, if_pos h8]
        by_cases h0 : disc > 0
        · rw [if_pos h0, if_pos h0]
        · rw [if_neg h0, if_neg h0]
      · rw [if_neg h8, if_neg h8, Nat.add_comm 1 k, Nat.sub_self]; rfl
  · have hkeep : (if b = 0x1b then (if k = 4 then 4 else 1) else 0 : Nat) ≤ 4 ∧
        (if b = 0x1b then (if k = 4 then 4 else 1) else 0 : Nat) ≤ 1 + k := by
      by_cases hb : b = 0x1b
      · rw [if_pos hb]
        by_cases h4 : k = 4
        · rw [if_pos h4]; omega
        · rw [if_neg h4]; omega
      · rw [if_neg hb]; omega
    simp only [if_neg hc]
    generalize (if b = 0x1b then (if k = 4 then 4 else 1) else 0 : Nat) = keep at hkeep ⊢
    rw [if_neg (show ¬ 1 + k < keep by omega), if_neg (show ¬ keep > 255 by omega),
      if_neg (show ¬ keep = 8 by omega)]

theorem Dec.pushByte_look {d : Dec} {disc init : Nat} (h : d.st = .look disc init) (b : UInt8) :
    d.pushByte b = Dec.pushLook { d with raw := d.raw + 1 } disc init b := by
  obtain ⟨r, c, s, z, bf⟩ := d
  simp only at h
  subst h
  rfl

namespace Resync

theorem pushByte_look_more {d : Dec} {disc k : Nat} {b : UInt8} (hst : d.st = .look disc k)
    (hk : k ≤ 7) (h8 : delta k b ≠ 8) :
    d.pushByte b =
      ({ d with raw := d.raw + 1, st := .look (disc + k + 1 - delta k b) (delta k b) }, .more) := by
  have hd := delta_le k b
  rw [Dec.pushByte_look hst b, Dec.pushLook_eq, if_neg (by omega), if_neg h8,
    show disc + (1 + k - delta k b) = disc + k + 1 - delta k b by omega]

theorem pushByte_look_hit {d : Dec} {disc k : Nat} {b : UInt8} (hst : d.st = .look disc k)
    (h8 : delta k b = 8) :
    d.pushByte b =
      ({ d with raw := 8, crc := startCrc, st := .normal },
        if disc > 0 then .err (.discarded disc) else .more) := by
  rw [Dec.pushByte_look hst b, Dec.pushLook_eq, if_neg (by omega), if_pos h8]

end Resync
end Sml
