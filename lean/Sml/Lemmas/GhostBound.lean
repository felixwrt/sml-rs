import Sml.Lemmas.ParserBasic
import Sml.Model.AllocGhost
/-
  Lemmas for property C06: the allocation ghost is faithful and bounded by the input length.
-/
namespace Sml

/-- length of the remaining input of a result (0 for an error) -/
def remaining {α : Type} : PRes α → Nat
  | .ok (_, r) => r.length
  | .error _ => 0

theorem remaining_mapRes {α β : Type} (f : α → β) (x : PRes α) :
    remaining (mapRes f x) = remaining x := by
  cases x with
  | error e => rfl
  | ok v => obtain ⟨a, r⟩ := v; rfl

theorem remaining_le {α : Type} {p : Bytes → PRes α} (hp : Adv 0 p) (i : Bytes) :
    remaining (p i) ≤ i.length := by
  cases h : p i with
  | error e => exact Nat.zero_le _
  | ok v => exact (hp.ok h).length_le

/-- `res` is the instrumented run of the call with result `x` on input `i`: the same result, and
    the requested capacities plus the remaining input do not exceed the input -/
def GhostOK {α : Type} (i : Bytes) (x : PRes α) (res : PRes α × List Nat) : Prop :=
  res.1 = x ∧ res.2.sum + remaining x ≤ i.length

theorem GhostOK.error {α : Type} {i : Bytes} {e : PErr} {caps : List Nat}
    (h : caps.sum ≤ i.length) : GhostOK i (.error e : PRes α) (.error e, caps) := ⟨rfl, h⟩

theorem GhostOK.ok {α : Type} {i r : Bytes} {v : α} {caps : List Nat}
    (h : caps.sum + r.length ≤ i.length) : GhostOK i (.ok (v, r)) (.ok (v, r), caps) := ⟨rfl, h⟩

theorem parseViaTlfG_ok {α : Type} (check : Tlf → Bool)
    (wG : Bytes → Tlf → PRes α × List Nat) (w : Bytes → Tlf → PRes α)
    (h : ∀ i tlf, GhostOK i (w i tlf) (wG i tlf)) (i : Bytes) :
    GhostOK i (parseViaTlf check w i) (parseViaTlfG check wG i) := by
  unfold parseViaTlfG parseViaTlf
  cases ht : parseTlf i with
  | error e => exact .error (Nat.zero_le _)
  | ok v =>
    obtain ⟨tlf, rest⟩ := v
    simp only
    split
    · exact .error (Nat.zero_le _)
    · have l := (adv_parseTlf.ok ht).length_le
      exact ⟨(h rest tlf).1, by have := (h rest tlf).2; omega⟩

/-- the request is at most the remaining input; when the loop succeeds it equals the number of
    entries, each of which consumed at least one byte -/
theorem parseListG_ok (i : Bytes) : GhostOK i (parseList i) (parseListG i) :=
  parseViaTlfG_ok _ _ _ (fun i tlf => by
    refine ⟨rfl, ?_⟩
    simp only [parseListWithG, listCapRequest, List.sum_cons, List.sum_nil, Nat.add_zero]
    cases he : parseEntries tlf.len i with
    | error e => simp only [remaining]; omega
    | ok v =>
      have := ((adv_parseEntries8 tlf.len).ok he).length_le
      simp only [remaining]
      omega) i

/-- call by call along the record: before the list nothing is requested and the input only shrinks
    (`lᵢ`); `parseListG_ok` bounds request + rest by the input at that point; after it the request stays
    and the input shrinks again -/
theorem parseGetListResponseWithG_ok (i : Bytes) (tlf : Tlf) :
    GhostOK i (parseGetListResponseWith i tlf) (parseGetListResponseWithG i tlf) := by
  unfold parseGetListResponseWithG parseGetListResponseWith
  rcases h1 : parseOpt parseOctet i with e | ⟨a1, i1⟩
  · exact .error (Nat.zero_le _)
  have l1 := ((adv_parseOpt adv_parseOctet).ok h1).length_le
  simp only
  rcases h2 : parseOctet i1 with e | ⟨a2, i2⟩
  · exact .error (Nat.zero_le _)
  have l2 := (adv_parseOctet.ok h2).length_le
  simp only
  rcases h3 : parseOpt parseOctet i2 with e | ⟨a3, i3⟩
  · exact .error (Nat.zero_le _)
  have l3 := ((adv_parseOpt adv_parseOctet).ok h3).length_le
  simp only
  rcases h4 : parseOpt parseTime i3 with e | ⟨a4, i4⟩
  · exact .error (Nat.zero_le _)
  have l4 := ((adv_parseOpt adv_parseTime).ok h4).length_le
  simp only
  obtain ⟨hf, hb⟩ := parseListG_ok i4
  rw [← hf] at hb ⊢
  generalize parseListG i4 = R at hb ⊢
  obtain ⟨res, caps⟩ := R
  rcases res with e | ⟨a5, i5⟩
  · exact .error (by simp only [remaining] at hb; omega)
  simp only [remaining] at hb
  simp only
  rcases h6 : parseOpt parseOctet i5 with e | ⟨a6, i6⟩
  · exact .error (by omega)
  have l6 := ((adv_parseOpt adv_parseOctet).ok h6).length_le
  simp only
  rcases h7 : parseOpt parseTime i6 with e | ⟨a7, i7⟩
  · exact .error (by omega)
  have l7 := ((adv_parseOpt adv_parseTime).ok h7).length_le
  exact .ok (by omega)

theorem parseGetListResponseG_ok (i : Bytes) :
    GhostOK i (parseGetListResponse i) (parseGetListResponseG i) :=
  parseViaTlfG_ok _ _ _ parseGetListResponseWithG_ok i

theorem parseMessageBodyWithG_ok (i : Bytes) (tlf : Tlf) :
    GhostOK i (parseMessageBodyWith i tlf) (parseMessageBodyWithG i tlf) := by
  unfold parseMessageBodyWithG parseMessageBodyWith
  rcases h1 : parseInt false 4 i with e | ⟨tag, i1⟩
  · exact .error (Nat.zero_le _)
  have l1 := ((adv_parseInt false 4).ok h1).length_le
  simp only
  split
  · have := remaining_le (adv_parseOpenResponse.mono (Nat.zero_le _)) i1
    exact ⟨rfl, by simp only [remaining_mapRes, List.sum_nil]; omega⟩
  split
  · have := remaining_le (adv_parseCloseResponse.mono (Nat.zero_le _)) i1
    exact ⟨rfl, by simp only [remaining_mapRes, List.sum_nil]; omega⟩
  split
  · obtain ⟨hf, hb⟩ := parseGetListResponseG_ok i1
    exact ⟨by simp only [hf], by simp only [remaining_mapRes]; omega⟩
  · exact .error (Nat.zero_le _)

theorem parseMessageBodyG_ok (i : Bytes) : GhostOK i (parseMessageBody i) (parseMessageBodyG i) :=
  parseViaTlfG_ok _ _ _ parseMessageBodyWithG_ok i

theorem parseMessageG_ok (i : Bytes) : GhostOK i (parseMessage i) (parseMessageG i) := by
  unfold parseMessageG parseMessage
  simp only
  rcases h1 : parseMsgHeader i with e | ⟨⟨tid, g, a⟩, i1⟩
  · exact .error (Nat.zero_le _)
  have l1 := (adv_parseMsgHeader.ok h1).length_le
  simp only
  obtain ⟨hf, hb⟩ := parseMessageBodyG_ok i1
  rw [← hf] at hb ⊢
  generalize parseMessageBodyG i1 = R at hb ⊢
  obtain ⟨res, caps⟩ := R
  rcases res with e | ⟨body, i2⟩
  · exact .error (by simp only [remaining] at hb; omega)
  simp only [remaining] at hb
  simp only
  rcases h3 : parseMsgTrailer i i2 with e | ⟨u, i3⟩
  · exact .error (by omega)
  have l3 := (parseMsgTrailer_ok _ _ _ _ h3).length_le
  exact .ok (by omega)

theorem parseMessagesG_ok (fuel : Nat) : ∀ (i : Bytes),
    (parseMessagesG fuel i).1 = parseMessages fuel i ∧
    (parseMessagesG fuel i).2.caps.sum ≤ i.length ∧
    7 * (parseMessagesG fuel i).2.pushes ≤ i.length := by
  induction fuel with
  | zero =>
    intro i
    cases i <;> exact ⟨rfl, Nat.zero_le _, Nat.zero_le _⟩
  | succ fuel ih =>
    intro i
    cases i with
    | nil => exact ⟨rfl, Nat.zero_le _, Nat.zero_le _⟩
    | cons b i =>
      simp only [parseMessagesG, parseMessages]
      obtain ⟨hf, hb⟩ := parseMessageG_ok (b :: i)
      rw [← hf] at hb ⊢
      generalize parseMessageG (b :: i) = R at hf hb ⊢
      obtain ⟨res, caps⟩ := R
      cases res with
      | error e => exact ⟨rfl, by simp only [remaining] at hb; omega, Nat.zero_le _⟩
      | ok v =>
        obtain ⟨m, rest⟩ := v
        simp only [remaining] at hb
        have l := (adv_parseMessage.ok hf.symm).length_le
        obtain ⟨ih0, ih1, ih2⟩ := ih rest
        refine ⟨?_, by simp only [List.sum_append]; omega, by simp only; omega⟩
        simp only [ih0]
        cases parseMessages fuel rest <;> rfl

theorem mem_le_sum (l : List Nat) : ∀ r ∈ l, r ≤ l.sum := by
  induction l with
  | nil => intro r hr; cases hr
  | cons a l ih =>
    intro r hr
    simp only [List.mem_cons] at hr
    simp only [List.sum_cons]
    rcases hr with rfl | hr
    · omega
    · have := ih r hr; omega

end Sml
