import Sml.Props.C08
/-
  Property C08, second sentence, in the generality of the first.

  `C08.cut_then_frame` is stated for a NEW decoder, without noise in front of the cut-off
  transmission, and asks that the whole payload `m1` of the cut-off transmission fits the buffer.
  Here:

  * any idle history (`C08.Idle`),
  * start-free noise `g` in front of the cut-off transmission,
  * the capacity hypothesis only for the part that was actually received: `NoOom cap a`, "feeding the
    cut-off part `a` to a new decoder with that buffer does not report out-of-memory"
    (`noOom_of_fits`: implied by `fitsCap cap |m1|`, in particular always true for `Vec`).

  `noise_cut` describes the decoder after noise and the cut-off part alone (used for C10: a stream
  that ends in an unfinished transmission).
-/
namespace Sml.C08

open Spec (frame)
open C07 (fitsCap)

theorem take_frame_split (m : List UInt8) (k : Nat) (hk : 8 ≤ k) :
    (frame m).take k = START ++ ((frame m).drop 8).take (k - 8) := by
  conv => lhs; rw [Dec.frame_eq_START_drop8]
  rw [List.take_append, List.take_of_length_le (by simp [START]; omega)]
  rfl

theorem take_frame_le8 (m : List UInt8) {k : Nat} (hk : k ≤ 8) :
    (frame m).take k = START.take k := by
  rw [Dec.frame_eq_START_drop8, List.take_append_of_le_length (by simp [START]; omega)]

abbrev afterStart (d : Dec) : Dec := { d with raw := 8, crc := startCrc, st := .normal }

/-- Noise in front of a transmission only adds its report: start-free noise `g`, a start
sequence, then anything.  The answers are those without `g`, with the silence for the start
sequence replaced by the silence for `g ++ START` and the noise report; the decoder ends in the
same state. -/
theorem noise_prefix (cap : Option Nat) (g : List UInt8) (hg : StartFree g) (x : List UInt8) :
    Dec.pushAll (Dec.fresh cap) (g ++ (START ++ x)) =
      ((Dec.pushAll (Dec.fresh cap) (START ++ x)).1,
        List.replicate (g.length + 7) Out.none ++
          [if g = [] then Out.none else Out.err (.discarded g.length)] ++
          (Dec.pushAll (Dec.fresh cap) (START ++ x)).2.drop 8) := by
  rw [← List.append_assoc]
  exact Dec.sync_prefix (Resync.noise_start (Dec.winv_fresh cap) (Dec.inv_fresh cap) g hg) x

/-- Start-free noise `g`, then the cut-off part `a` of a transmission, to a new decoder: silence,
the noise report at the last byte of the start sequence (if `g ≠ []`), silence.  The state
afterwards is `Normal` with `raw_msg_len = |a|` (so `finalize` would report `DiscardedBytes(|a|)`
and `reset` would return `|a|`). -/
theorem noise_cut (cap : Option Nat) (g m1 : List UInt8) (k : Nat) (hg : StartFree g)
    (hstate : (Dec.pushAll (Dec.fresh none) ((frame m1).take k)).1.st = .normal)
    (hroom : NoOom cap ((frame m1).take k)) :
    (Dec.pushAll (Dec.fresh cap) (g ++ (frame m1).take k)).2 =
        List.replicate (g.length + 7) Out.none ++
          [if g = [] then Out.none else Out.err (.discarded g.length)] ++
          List.replicate (((frame m1).take k).length - 8) Out.none ∧
      (Dec.pushAll (Dec.fresh cap) (g ++ (frame m1).take k)).1.st = .normal ∧
      (Dec.pushAll (Dec.fresh cap) (g ++ (frame m1).take k)).1.raw = ((frame m1).take k).length ∧
      (Dec.pushAll (Dec.fresh cap) (g ++ (frame m1).take k)).1.buf.cap = cap := by
  obtain ⟨c1, c2, c3, c4, _, c6⟩ := Resync.cut_facts cap m1 k hstate hroom
  have hsplit := take_frame_split m1 k c6
  rw [hsplit, noise_prefix cap g hg, ← hsplit]
  exact ⟨by simp only; rw [c1, List.drop_replicate], c2, c3, c4⟩

/-- New decoder.  One answer per byte: `Ok(None)` everywhere, except
`Err(DiscardedBytes(|g|))` at the last byte of the first start sequence (if there was noise),
`Err(DiscardedBytes(|a|))` at the last byte of the second start sequence (`a` = the cut-off part),
and `Ok(Some(m2))` at the last byte. -/
theorem noise_cut_then_frame (cap : Option Nat) (g m1 m2 : List UInt8) (k : Nat) (hg : StartFree g)
    (hstate : (Dec.pushAll (Dec.fresh none) ((frame m1).take k)).1.st = .normal)
    (hroom : NoOom cap ((frame m1).take k)) (hm : fitsCap cap m2.length) :
    (Dec.pushAll (Dec.fresh cap) (g ++ (frame m1).take k ++ frame m2)).2 =
        List.replicate (g.length + 7) Out.none ++
          [if g = [] then Out.none else Out.err (.discarded g.length)] ++
          List.replicate (((frame m1).take k).length - 8 + 7) Out.none ++
          [Out.err (.discarded ((frame m1).take k).length)] ++
          List.replicate ((frame m2).length - 9) Out.none ++ [Out.msg m2] ∧
      (Dec.pushAll (Dec.fresh cap) (g ++ (frame m1).take k ++ frame m2)).1.st = .done ∧
      (Dec.pushAll (Dec.fresh cap) (g ++ (frame m1).take k ++ frame m2)).1.buf.data = m2 := by
  obtain ⟨n1, n2, n3, n4⟩ := noise_cut cap g m1 k hg hstate hroom
  -- the second start sequence reports the cut-off part and leaves the post-START state
  have ha := Dec.pushAll_append (g ++ (frame m1).take k) (Dec.fresh cap) START
  rw [Resync.restart_started n2, n1, n3, n4] at ha
  have h := Dec.sync_frame ha m2 hm
  rw [List.append_assoc, ← Dec.frame_eq_START_drop8] at h
  rw [h]
  refine ⟨?_, rfl, List.reverse_reverse m2⟩
  simp only [← List.replicate_append_replicate, List.append_assoc]

/-- The same from a decoder with any idle history `ops` of `push_byte` / `finalize` / `reset` /
`new` / `from_buf` calls. -/
theorem cut_then_frame_idle (cap : Option Nat) (ops : List Op) (h : Idle cap ops)
    (g m1 m2 : List UInt8) (k : Nat) (hg : StartFree g)
    (hstate : (Dec.pushAll (Dec.fresh none) ((frame m1).take k)).1.st = .normal)
    (hroom : NoOom cap ((frame m1).take k)) (hm : fitsCap cap m2.length) :
    (Dec.pushAll (Dec.run (Dec.fresh cap) ops).1 (g ++ (frame m1).take k ++ frame m2)).2 =
      List.replicate (g.length + 7) Out.none ++
        [if g = [] then Out.none else Out.err (.discarded g.length)] ++
        List.replicate (((frame m1).take k).length - 8 + 7) Out.none ++
        [Out.err (.discarded ((frame m1).take k).length)] ++
        List.replicate ((frame m2).length - 9) Out.none ++ [Out.msg m2] := by
  rw [Resync.pushAll_after_idle cap ops h]
  exact (noise_cut_then_frame cap g m1 m2 k hg hstate hroom hm).1

/-- the statement of `C08.cut_then_frame` under a second name (an end result of its own in the
audit; nothing here comes from the idle version) -/
theorem cut_then_frame_of_idle (cap : Option Nat) (m1 m2 : List UInt8) (k : Nat)
    (hstate : (Dec.pushAll (Dec.fresh none) ((frame m1).take k)).1.st = .normal)
    (hroom : fitsCap cap m1.length) (hm : fitsCap cap m2.length) :
    (Dec.pushAll (Dec.fresh cap) ((frame m1).take k ++ frame m2)).2 =
      List.replicate (((frame m1).take k).length + 7) Out.none ++
        [Out.err (.discarded ((frame m1).take k).length)] ++
        List.replicate ((frame m2).length - 9) Out.none ++ [Out.msg m2] :=
  cut_then_frame cap m1 m2 k hstate hroom hm

/-- a payload of 8 bytes cut after 2 of them in an `ArrayBuf<5>`: `fitsCap (some 5) 8` is false,
`NoOom` holds -/
example : NoOom (some 5) ((frame [1, 2, 3, 4, 5, 6, 7, 8]).take 10) := by decide +kernel
example : ¬ fitsCap (some 5) ([1, 2, 3, 4, 5, 6, 7, 8] : List UInt8).length := by decide
example : (Dec.pushAll (Dec.fresh none) ((frame [1, 2, 3, 4, 5, 6, 7, 8]).take 10)).1.st = .normal := by
  decide +kernel

/-- idle history (a delivered frame), noise `00 1b 1b`, the cut-off part, a frame -/
example : (Dec.pushAll (Dec.run (Dec.fresh (some 5)) ((frame [7]).map Op.push)).1
      ([0x00, 0x1b, 0x1b] ++ (frame [1, 2, 3, 4, 5, 6, 7, 8]).take 10 ++ frame [9])).2 =
    List.replicate 10 Out.none ++ [Out.err (.discarded 3)] ++ List.replicate 9 Out.none ++
      [Out.err (.discarded 10)] ++ List.replicate 11 Out.none ++ [Out.msg [9]] := by
  decide +kernel

/-- the hypothesis `NoOom` is needed: with a buffer of 1 byte the cut-off part itself runs out of
memory, the decoder is reset there and the rest of the cut-off part is noise -/
example : ¬ NoOom (some 1) ((frame [1, 2, 3, 4, 5, 6, 7, 8]).take 10) := by decide +kernel

end Sml.C08
