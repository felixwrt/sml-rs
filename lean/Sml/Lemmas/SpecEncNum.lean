import Sml.Lemmas.SpecEncTlf
import Sml.Lemmas.GramIntro
/-
  Canonical encoder, integers: `toBe` inverts `beNat` (`C03.beNat_toBe`), `toBeSigned` inverts `twos`
  (`C03.twos_toBeSigned`), the chosen widths are admissible; a field of an admissible width is
  `uns_field` / `int_field`, hence `enc_sound_unsigned`, `enc_sound_signed` and the integers of
  `SML_Value` / `SML_Status`, which carry their width class (`class_uns`, `class_int`).
-/
namespace Sml.SpecEnc
open Sml Sml.Spec

theorem length_toBe (n : Nat) : ∀ w, (toBe w n).length = w := by
  intro w
  induction w with
  | zero => rfl
  | succ w ih => simp [toBe, ih]

theorem beNat_toBe (n : Nat) : ∀ w, beNat (toBe w n) = n % 256 ^ w := by
  intro w
  induction w with
  | zero => simp [toBe, beNat, Nat.mod_one]
  | succ w ih =>
    rw [toBe, C12.beNat_cons, ih, length_toBe, Nat.mod_pow_succ]
    simp only [UInt8.toNat_ofNat', Nat.reducePow]
    rw [Nat.mul_comm, Nat.add_comm]

theorem _root_.Sml.C03.beNat_toBe (w n : Nat) (h : n < 256 ^ w) : beNat (toBe w n) = n := by
  rw [SpecEnc.beNat_toBe, Nat.mod_eq_of_lt h]

theorem clampWidth_spec (lo hi req : Nat) (h : lo ≤ hi) :
    lo ≤ clampWidth lo hi req ∧ clampWidth lo hi req ≤ hi := by
  simp only [clampWidth]; omega

theorem inUns_toNat {size : Nat} {v : Int} (h : InUns size v) : v.toNat < 256 ^ size := by
  obtain ⟨h0, h1⟩ := h
  rw [C12.two_pow_8] at h1
  omega

/-- `minWidthU` is the search `firstFrom` for "`w` bytes hold `n`" -/
theorem minWidthU_spec (n size : Nat) (hs : 1 ≤ size ∧ size ≤ 8) (h : n < 256 ^ size) :
    1 ≤ minWidthU n ∧ minWidthU n ≤ size ∧ ∀ w, minWidthU n ≤ w → n < 256 ^ w :=
  fewest_spec (n < 256 ^ ·)
    (fun _ _ _ h hn => Nat.lt_of_lt_of_le hn (Nat.pow_le_pow_right (by decide) h)) size hs h

theorem tlf_small (extra : Nat) (ty : Ty) (w : Nat) (hb : ty ≠ .boolean) (hw : w ≤ 8) :
    EncTlf ⟨ty, w⟩ (encTlf extra ty w) :=
  C03.enc_sound_tlf extra ty w hb (by simp only [u32Max]; split <;> omega)

/-- an unsigned field of `w ≤ 8` bytes that hold `v`: type-length field, length and value of the data -/
theorem uns_field (extra : Nat) (v : Int) (w : Nat) (h0 : 0 ≤ v) (h : v.toNat < 256 ^ w)
    (h8 : w ≤ 8) :
    EncTlf ⟨.unsigned, (toBe w v.toNat).length⟩ (encTlf extra .unsigned w) ∧
      (toBe w v.toNat).length = w ∧ v = (beNat (toBe w v.toNat) : Int) := by
  have d1 := length_toBe v.toNat w
  exact ⟨d1.symm ▸ tlf_small _ _ _ (by decide) h8, d1,
    by rw [C03.beNat_toBe _ _ h, Int.toNat_of_nonneg h0]⟩

/-- Unsigned-N in any width from the fewest bytes that hold the value up to `size` -/
theorem enc_sound_unsigned (c : FieldChoice) (size : Nat) (v : Int) (hs : 1 ≤ size ∧ size ≤ 8)
    (hv : InUns size v) : EncUnsigned size v (encUnsigned c size v) := by
  obtain ⟨m1, mle, hall⟩ := minWidthU_spec v.toNat size hs (inUns_toNat hv)
  obtain ⟨c1, c2⟩ := clampWidth_spec (minWidthU v.toNat) size c.width mle
  obtain ⟨ht, d1, d2⟩ := uns_field c.tlfExtra v _ hv.1 (hall _ c1) (by omega)
  exact Gram.mk_unsigned size v _ _ ht (by omega) (by omega) d2

theorem inInt_succ (k : Nat) (v : Int) :
    InInt (k + 1) v ↔ -((128 * 256 ^ k : Nat) : Int) ≤ v ∧ v < ((128 * 256 ^ k : Nat) : Int) := by
  have : 2 ^ (8 * (k + 1) - 1) = 128 * 256 ^ k := by
    have := C12.two_pow_8_pred (k + 1) (by omega)
    rw [Nat.pow_succ] at this
    omega
  unfold InInt
  rw [this]

theorem inInt_mono {a b : Nat} (v : Int) (ha : 1 ≤ a) (h : a ≤ b) (hv : InInt a v) : InInt b v := by
  obtain ⟨a', rfl⟩ : ∃ a', a = a' + 1 := ⟨a - 1, by omega⟩
  obtain ⟨b', rfl⟩ : ∃ b', b = b' + 1 := ⟨b - 1, by omega⟩
  rw [inInt_succ] at hv ⊢
  have : (256 ^ a' : Nat) ≤ 256 ^ b' := Nat.pow_le_pow_right (by decide) (by omega)
  omega

/-- for `-h ≤ v < h`: reducing `v` modulo the range `2h` and reading the upper half as negative
    gives `v` back -/
theorem emod_half (v : Int) (h : Nat) (h1 : -(h : Int) ≤ v) (h2 : v < h) :
    ∃ n : Nat, (v % ((2 * h : Nat) : Int)).toNat = n ∧ n < 2 * h ∧
      v = if n ≥ h then (n : Int) - ((2 * h : Nat) : Int) else n := by
  by_cases hneg : v < 0
  · rw [← Int.add_emod_right, Int.emod_eq_of_lt (by omega) (by omega)]
    exact ⟨_, rfl, by omega, by rw [if_pos (by omega)]; omega⟩
  · rw [Int.emod_eq_of_lt (by omega) (by omega)]
    exact ⟨_, rfl, by omega, by rw [if_neg (by omega)]; omega⟩

theorem _root_.Sml.C03.twos_toBeSigned (w : Nat) (v : Int) (hw : 1 ≤ w) (h : InInt w v) :
    twos (toBeSigned w v) = v := by
  obtain ⟨k, rfl⟩ : ∃ k, w = k + 1 := ⟨w - 1, by omega⟩
  rw [inInt_succ] at h
  have hpow : (256 ^ (k + 1) : Nat) = 2 * (128 * 256 ^ k) := by rw [Nat.pow_succ]; omega
  obtain ⟨n, hn, hlt, hv⟩ := emod_half v _ h.1 h.2
  rw [← hpow] at hn hlt hv
  -- the sign bit of the first byte says in which half of the range `n` lies
  have hhalf := C12.beNat_cons_ge_half (UInt8.ofNat (n / 256 ^ k)) (toBe k n)
  rw [show UInt8.ofNat (n / 256 ^ k) :: toBe k n = toBe (k + 1) n from rfl,
    C03.beNat_toBe _ _ hlt, length_toBe] at hhalf
  rw [toBeSigned, hn]
  show (if (UInt8.ofNat (n / 256 ^ k)).toNat ≥ 128 then
      (beNat (toBe (k + 1) n) : Int) - (2 ^ (8 * (toBe (k + 1) n).length) : Nat)
    else (beNat (toBe (k + 1) n) : Int)) = v
  rw [C03.beNat_toBe _ _ hlt, length_toBe, C12.two_pow_8]
  simp only [hhalf]
  exact hv.symm

theorem minWidthS_spec (v : Int) (size : Nat) (hs : 1 ≤ size ∧ size ≤ 8) (hv : InInt size v) :
    1 ≤ minWidthS v ∧ minWidthS v ≤ size ∧ ∀ w, minWidthS v ≤ w → InInt w v :=
  fewest_spec (InInt · v) (fun _ _ => inInt_mono v) size hs hv

/-- a signed field of `1 ≤ w ≤ 8` bytes that hold `v` -/
theorem int_field (extra : Nat) (v : Int) (w : Nat) (h1 : 1 ≤ w) (h8 : w ≤ 8) (h : InInt w v) :
    EncTlf ⟨.integer, (toBeSigned w v).length⟩ (encTlf extra .integer w) ∧
      (toBeSigned w v).length = w ∧ v = twos (toBeSigned w v) := by
  have d1 : (toBeSigned w v).length = w := length_toBe _ _
  exact ⟨d1.symm ▸ tlf_small _ _ _ (by decide) h8, d1, (C03.twos_toBeSigned w v h1 h).symm⟩

/-- Integer-N likewise, in two's complement -/
theorem enc_sound_signed (c : FieldChoice) (size : Nat) (v : Int) (hs : 1 ≤ size ∧ size ≤ 8)
    (hv : InInt size v) : EncSigned size v (encSigned c size v) := by
  obtain ⟨m1, mle, hall⟩ := minWidthS_spec v size hs hv
  obtain ⟨c1, c2⟩ := clampWidth_spec (minWidthS v) size c.width mle
  obtain ⟨ht, d1, d2⟩ := int_field c.tlfExtra v _ (Nat.le_trans m1 c1) (by omega) (hall _ c1)
  exact Gram.mk_signed size v _ _ ht (by omega) (by omega) d2

theorem widths_cases {size : Nat} (h : size ∈ widths) : size = 1 ∨ size = 2 ∨ size = 4 ∨ size = 8 := by
  simpa [widths] using h

theorem widths_le {size : Nat} (h : size ∈ widths) : 1 ≤ size ∧ size ≤ 8 := by
  rcases widths_cases h with rfl | rfl | rfl | rfl <;> omega

/-- the standard widths double: more than half of `size` bytes do not fit the next narrower one -/
theorem widthClass_of_half {w size : Nat} (hs : size ∈ widths) (h1 : size / 2 < w) (h2 : w ≤ size) :
    WidthClass w size := by
  refine ⟨hs, h2, fun s hs' hws => ?_⟩
  rcases widths_cases hs with rfl | rfl | rfl | rfl <;>
    rcases widths_cases hs' with rfl | rfl | rfl | rfl <;> omega

theorem classWidth_spec (c : FieldChoice) (size fewest : Nat) (hs : size ∈ widths)
    (h2 : fewest ≤ size) :
    let w := classWidth c size fewest
    fewest ≤ w ∧ 1 ≤ w ∧ w ≤ 8 ∧ w ≤ size ∧ WidthClass w size := by
  intro w
  have h8 := widths_le hs
  obtain ⟨c1, c2⟩ := clampWidth_spec (max fewest (size / 2 + 1)) size c.width (by omega)
  have c1 : max fewest (size / 2 + 1) ≤ w := c1
  have c2 : w ≤ size := c2
  exact ⟨by omega, by omega, by omega, c2, widthClass_of_half hs (by omega) c2⟩

theorem class_uns (c : FieldChoice) (size : Nat) (v : Int) (hs : size ∈ widths) (hv : InUns size v) :
    let w := classWidth c size (minWidthU v.toNat)
    let data := toBe w v.toNat
    EncTlf ⟨.unsigned, data.length⟩ (encTlf c.tlfExtra .unsigned w) ∧ 1 ≤ data.length ∧
      data.length ≤ 8 ∧ WidthClass data.length size ∧ v = (beNat data : Int) := by
  intro w data
  obtain ⟨_, mle, hall⟩ := minWidthU_spec v.toNat size (widths_le hs) (inUns_toNat hv)
  obtain ⟨k1, k2, k3, k4, k5⟩ := classWidth_spec c size _ hs mle
  obtain ⟨ht, d1, d2⟩ := uns_field c.tlfExtra v w hv.1 (hall w k1) k3
  exact ⟨ht, d1.symm ▸ k2, d1.symm ▸ k3, d1.symm ▸ k5, d2⟩

theorem class_int (c : FieldChoice) (size : Nat) (v : Int) (hs : size ∈ widths) (hv : InInt size v) :
    let w := classWidth c size (minWidthS v)
    let data := toBeSigned w v
    EncTlf ⟨.integer, data.length⟩ (encTlf c.tlfExtra .integer w) ∧ 1 ≤ data.length ∧
      data.length ≤ 8 ∧ WidthClass data.length size ∧ v = twos data := by
  intro w data
  obtain ⟨_, mle, hall⟩ := minWidthS_spec v size (widths_le hs) hv
  obtain ⟨k1, k2, k3, k4, k5⟩ := classWidth_spec c size _ hs mle
  obtain ⟨ht, d1, d2⟩ := int_field c.tlfExtra v w k2 k3 (hall w k1)
  exact ⟨ht, d1.symm ▸ k2, d1.symm ▸ k3, d1.symm ▸ k5, d2⟩

end Sml.SpecEnc
