import Sml.Lemmas.GramValues
/-
  Grammar ↔ parser correspondence for the records: SML_ListEntry, SML_PublicOpen.Res,
  SML_PublicClose.Res, SML_List, SML_GetList.Res, SML_MessageBody.  Each parser is a chain of
  `Parses.bind` (hence `smartUnfolding false`, see there); what is left per symbol is to flatten
  the nested `∃` of the chain into the relation of Spec/Grammar.lean.
-/
set_option smartUnfolding false

namespace Sml.Gram
open Sml Sml.Spec

theorem p_optOctet : Parses (parseOpt parseOctet) (EncOpt EncOctet) :=
  parses_opt parses_octet adv_parseOctet
theorem p_optTime : Parses (parseOpt parseTime) (EncOpt EncTime) :=
  parses_opt parses_time adv_parseTime
theorem p_optStatus : Parses (parseOpt parseStatus) (EncOpt EncStatus) :=
  parses_opt parses_status adv_parseStatus
theorem p_optU8 : Parses (parseOpt (parseInt false 1)) (EncOpt (EncUnsigned 1)) :=
  parses_opt (parses_unsigned 1) (adv_parseInt false 1)
theorem p_optI8 : Parses (parseOpt (parseInt true 1)) (EncOpt (EncSigned 1)) :=
  parses_opt (parses_signed 1) (adv_parseInt true 1)

/-- list TLF with a fixed element count, then a body that does not depend on the TLF -/
theorem parses_struct {α : Type} {n : Nat} {withTlf : Bytes → Tlf → PRes α}
    {B : α → Bytes → Prop} (hB : ∀ t, Parses (fun i => withTlf i t) B) :
    Parses (parseViaTlf (listCheck n) withTlf)
      (fun v bs => ∃ tl body, bs = tl ++ body ∧ EncTlf ⟨.listOf, n⟩ tl ∧ B v body) := by
  refine parses_viaTlf (B := fun _ => B) (fun t _ => hB t) ?_ ?_
  · rintro v bs ⟨tl, body, rfl, ht, hb⟩
    exact ⟨_, tl, body, rfl, ht, by simp [listCheck], hb⟩
  · rintro v ⟨ty, len⟩ tl body ht hc hb
    simp only [listCheck, Bool.and_eq_true, decide_eq_true_eq] at hc
    obtain ⟨rfl, rfl⟩ := hc
    exact ⟨tl, body, rfl, ht, hb⟩

theorem parses_listEntry : Parses parseListEntry EncListEntry := by
  refine (parses_struct fun _ =>
    parses_octet.bind fun a1 => p_optStatus.bind fun a2 => p_optTime.bind fun a3 =>
    p_optU8.bind fun a4 => p_optI8.bind fun a5 => parses_value.bind fun a6 =>
    p_optOctet.bind fun a7 => Parses.pure (ListEntry.mk a1 a2 a3 a4 a5 a6 a7)).congr
    fun x bs => ⟨?_, ?_⟩
  · rintro ⟨tl, _, rfl, ht, _, b1, _, rfl, h1, _, b2, _, rfl, h2, _, b3, _, rfl, h3, _, b4, _, rfl, h4,
      _, b5, _, rfl, h5, _, b6, _, rfl, h6, _, b7, _, rfl, h7, rfl, rfl⟩
    exact ⟨tl, b1, b2, b3, b4, b5, b6, b7, by simp, ht, h1, h2, h3, h4, h5, h6, h7⟩
  · rintro ⟨tl, b1, b2, b3, b4, b5, b6, b7, rfl, ht, h1, h2, h3, h4, h5, h6, h7⟩
    exact ⟨tl, b1 ++ (b2 ++ (b3 ++ (b4 ++ (b5 ++ (b6 ++ (b7 ++ [])))))), by simp, ht, _, b1, _, rfl, h1,
      _, b2, _, rfl, h2, _, b3, _, rfl, h3, _, b4, _, rfl, h4, _, b5, _, rfl, h5, _, b6, _, rfl, h6,
      _, b7, [], rfl, h7, rfl, rfl⟩

theorem parses_openResponse : Parses parseOpenResponse EncOpenResponse := by
  refine (parses_struct fun _ =>
    p_optOctet.bind fun a1 => p_optOctet.bind fun a2 => parses_octet.bind fun a3 =>
    parses_octet.bind fun a4 => p_optTime.bind fun a5 => p_optU8.bind fun a6 =>
    Parses.pure (OpenResponse.mk a1 a2 a3 a4 a5 a6)).congr fun x bs => ⟨?_, ?_⟩
  · rintro ⟨tl, _, rfl, ht, _, b1, _, rfl, h1, _, b2, _, rfl, h2, _, b3, _, rfl, h3, _, b4, _, rfl, h4,
      _, b5, _, rfl, h5, _, b6, _, rfl, h6, rfl, rfl⟩
    exact ⟨tl, b1, b2, b3, b4, b5, b6, by simp, ht, h1, h2, h3, h4, h5, h6⟩
  · rintro ⟨tl, b1, b2, b3, b4, b5, b6, rfl, ht, h1, h2, h3, h4, h5, h6⟩
    exact ⟨tl, b1 ++ (b2 ++ (b3 ++ (b4 ++ (b5 ++ (b6 ++ []))))), by simp, ht, _, b1, _, rfl, h1,
      _, b2, _, rfl, h2, _, b3, _, rfl, h3, _, b4, _, rfl, h4, _, b5, _, rfl, h5, _, b6, [], rfl, h6,
      rfl, rfl⟩

theorem parses_closeResponse : Parses parseCloseResponse EncCloseResponse := by
  refine (parses_struct fun _ => p_optOctet.bind fun a1 => Parses.pure (CloseResponse.mk a1)).congr
    fun x bs => ⟨?_, ?_⟩
  · rintro ⟨tl, _, rfl, ht, _, b1, _, rfl, h1, rfl, rfl⟩
    exact ⟨tl, b1, by simp, ht, h1⟩
  · rintro ⟨tl, b1, rfl, ht, h1⟩
    exact ⟨tl, b1 ++ [], by simp, ht, _, b1, [], rfl, h1, rfl, rfl⟩

theorem parses_entries (n : Nat) :
    Parses (parseEntries n) (fun xs body => xs.length = n ∧ EncSeq EncListEntry xs body) := by
  induction n with
  | zero =>
    refine (Parses.pure []).congr fun xs bs => ⟨?_, ?_⟩
    · rintro ⟨rfl, rfl⟩; exact ⟨rfl, .nil⟩
    · rintro ⟨hl, hs⟩
      cases hs with
      | nil => exact ⟨rfl, rfl⟩
      | cons _ _ => simp at hl
  | succ n ih =>
    refine (parses_listEntry.bind fun x => ih.bind fun xs => Parses.pure (x :: xs)).congr
      fun ys bs => ⟨?_, ?_⟩
    · rintro ⟨x, e, _, rfl, hx, xs, es, _, rfl, ⟨hl, hs⟩, rfl, rfl⟩
      exact ⟨by simp [hl], by simpa using EncSeq.cons hx hs⟩
    · rintro ⟨hl, hs⟩
      cases hs with
      | nil => simp at hl
      | cons hx hxs =>
        rename_i x xs e es
        exact ⟨x, e, es ++ [], by simp, hx, xs, es, [], rfl, ⟨by simpa using hl, hxs⟩, rfl, rfl⟩

theorem parses_list : Parses parseList EncValList := by
  unfold parseList
  refine parses_viaTlf (B := fun t xs body => xs.length = t.len ∧ EncSeq EncListEntry xs body)
    (fun t _ => parses_entries t.len) ?_ ?_
  · rintro xs bs ⟨tl, body, rfl, ht, hs⟩
    exact ⟨_, tl, body, rfl, ht, by simp, rfl, hs⟩
  · rintro xs ⟨ty, len⟩ tl body ht hc ⟨hl, hs⟩
    simp only [decide_eq_true_eq] at hc hl
    subst hc hl
    exact ⟨tl, body, rfl, ht, hs⟩

theorem parses_getListResponse : Parses parseGetListResponse EncGetListResponse := by
  refine (parses_struct fun _ =>
    p_optOctet.bind fun a1 => parses_octet.bind fun a2 => p_optOctet.bind fun a3 =>
    p_optTime.bind fun a4 => parses_list.bind fun a5 => p_optOctet.bind fun a6 =>
    p_optTime.bind fun a7 => Parses.pure (GetListResponse.mk a1 a2 a3 a4 a5 a6 a7)).congr
    fun x bs => ⟨?_, ?_⟩
  · rintro ⟨tl, _, rfl, ht, _, b1, _, rfl, h1, _, b2, _, rfl, h2, _, b3, _, rfl, h3, _, b4, _, rfl, h4,
      _, b5, _, rfl, h5, _, b6, _, rfl, h6, _, b7, _, rfl, h7, rfl, rfl⟩
    exact ⟨tl, b1, b2, b3, b4, b5, b6, b7, by simp, ht, h1, h2, h3, h4, h5, h6, h7⟩
  · rintro ⟨tl, b1, b2, b3, b4, b5, b6, b7, rfl, ht, h1, h2, h3, h4, h5, h6, h7⟩
    exact ⟨tl, b1 ++ (b2 ++ (b3 ++ (b4 ++ (b5 ++ (b6 ++ (b7 ++ [])))))), by simp, ht, _, b1, _, rfl, h1,
      _, b2, _, rfl, h2, _, b3, _, rfl, h3, _, b4, _, rfl, h4, _, b5, _, rfl, h5, _, b6, _, rfl, h6,
      _, b7, [], rfl, h7, rfl, rfl⟩

theorem parses_messageBody : Parses parseMessageBody EncMessageBody := by
  refine (parses_struct fun _ => (parses_unsigned 4).bind fun tag =>
    Parses.ite (tag = 0x0101)
      (fun _ => parses_mapRes MessageBody.openResponse parses_openResponse) fun _ =>
    Parses.ite (tag = 0x0201)
      (fun _ => parses_mapRes MessageBody.closeResponse parses_closeResponse) fun _ =>
    Parses.guard (tag = 0x0701) .unexpectedVariant
      (parses_mapRes MessageBody.getListResponse parses_getListResponse)).congr fun x bs => ⟨?_, ?_⟩
  · rintro ⟨tl, _, rfl, ht, _, tag, b, rfl, h1,
      ⟨rfl, y, rfl, h2⟩ | ⟨_, ⟨rfl, y, rfl, h2⟩ | ⟨_, rfl, y, rfl, h2⟩⟩⟩ <;>
    exact ⟨tl, tag, b, by simp, ht, h1, h2⟩
  · cases x <;> rintro ⟨tl, tag, b, rfl, ht, h1, h2⟩
    · exact ⟨tl, tag ++ b, by simp, ht, _, tag, b, rfl, h1, .inl ⟨rfl, _, rfl, h2⟩⟩
    · exact ⟨tl, tag ++ b, by simp, ht, _, tag, b, rfl, h1,
        .inr ⟨by decide, .inl ⟨rfl, _, rfl, h2⟩⟩⟩
    · exact ⟨tl, tag ++ b, by simp, ht, _, tag, b, rfl, h1,
        .inr ⟨by decide, .inr ⟨by decide, rfl, _, rfl, h2⟩⟩⟩

end Sml.Gram
