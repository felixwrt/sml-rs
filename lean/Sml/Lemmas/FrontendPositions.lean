import Sml.Props.C02
import Sml.Props.C15
/-
  Property C02, positional versions of the front-end corollaries.

  `C02.sound_iter`, `C02.sound_reader`, `C02.sound_decodeAll` only say that `frame m` occurs
  SOMEWHERE in the input.  Here the position is pinned down (`sound_iter_pos`, `sound_reader_pos`,
  `sound_decodeAll_pos`).
-/
namespace Sml.C02

open Spec (frame)

/-- the iterator after `k` calls of `next` -/
def iterAfter (it : DecIter) : Nat → DecIter
  | 0 => it
  | k + 1 => iterAfter it.next.1 k

/-- the input splits into the bytes consumed `c`, which end with the window of the decoder, and the
bytes still to come (nothing is claimed once the iterator is exhausted: it returns `None`) -/
def IInv (s : List UInt8) (it : DecIter) : Prop :=
  ∃ c w, Dec.WInv w it.dec ∧ w <:+ c ∧ s = c ++ it.bytes

theorem pull_pos (s : List UInt8) (bs : List UInt8) : ∀ {c w : List UInt8} {d : Dec},
    Dec.WInv w d → w <:+ c → s = c ++ bs →
    IInv s (DecIter.pull d bs).1 ∧
      ∀ m, (DecIter.pull d bs).2 = some (Item.ok m) →
        ∃ p, s = p ++ frame m ++ (DecIter.pull d bs).1.bytes := by
  induction bs with
  | nil =>
    intro c w d h _ hs
    unfold DecIter.pull
    refine ⟨⟨c, [], Dec.winv_reset d, List.nil_suffix, hs⟩, fun m hm => ?_⟩
    simp only [Option.map_eq_some_iff] at hm
    obtain ⟨e, _, he⟩ := hm
    cases he
  | cons b bs ih =>
    intro c w d h hc hs
    have hs' : s = (c ++ [b]) ++ bs := by rw [hs]; simp
    obtain ⟨w', _, hn, hc', _⟩ := Dec.winv_step h hc (b := 0) rfl (.push b)
    cases hx : (d.push b).2.toItem? with
    | none => rw [DecIter.pull_cons, hx]; exact ih hn hc' hs'
    | some x =>
      rw [DecIter.pull_cons, hx]
      refine ⟨⟨_, w', hn, hc', hs'⟩, fun m hm => ?_⟩
      cases hm
      obtain ⟨p, hp⟩ := Dec.step_msg h hc (op := .push b) (m := m)
        (congrArg OpOut.out (toItem?_eq_ok hx))
      exact ⟨p, by rw [hs', show c ++ [b] = p ++ frame m from hp.symm]⟩

theorem next_pos {s : List UInt8} {it : DecIter} (h : IInv s it) :
    IInv s it.next.1 ∧
      ∀ m, it.next.2 = some (Item.ok m) → ∃ p, s = p ++ frame m ++ it.next.1.bytes := by
  unfold DecIter.next
  split
  · exact ⟨h, by intro m hm; cases hm⟩
  · obtain ⟨c, w, h1, h2, h3⟩ := h
    exact pull_pos s it.bytes h1 h2 h3

theorem take_pos (s : List UInt8) (n : Nat) : ∀ {it : DecIter} (i : Nat) {m : List UInt8},
    IInv s it → (it.take n)[i]? = some (some (Item.ok m)) →
    ∃ p, s = p ++ frame m ++ (iterAfter it (i + 1)).bytes := by
  induction n with
  | zero => intro it i m _ h; simp [DecIter.take] at h
  | succ n ih =>
    intro it i m hi h
    have hrun : it.take (n + 1) = it.next.2 :: it.next.1.take n := rfl
    rw [hrun] at h
    obtain ⟨h1, h2⟩ := next_pos hi
    cases i with
    | zero =>
      simp only [List.getElem?_cons_zero, Option.some.injEq] at h
      exact h2 m h
    | succ i =>
      simp only [List.getElem?_cons_succ] at h
      exact ih i h1 h

/-- `decode_streaming` / `DecodeIterator`, any buffer: if the `i`-th call of `next` (counting from
0) returns the payload `m`, the input is `pre ++ frame m ++ rem`, where `rem` are exactly the bytes
the iterator has not consumed after that call.  So the bytes consumed up to and including that call
end with `frame m`. -/
theorem sound_iter_pos (cap : Option Nat) (s : List UInt8) (n i : Nat) (m : List UInt8)
    (h : ((DecIter.new cap s).take n)[i]? = some (some (Item.ok m))) :
    ∃ pre, s = pre ++ frame m ++ (iterAfter (DecIter.new cap s) (i + 1)).bytes :=
  take_pos s n i ⟨[], [], Dec.winv_fresh cap, List.nil_suffix, by simp [DecIter.new]⟩ h

/-- the same with the number of consumed bytes `k = |s| - |rem|` written out -/
theorem sound_iter_pos_take (cap : Option Nat) (s : List UInt8) (n i : Nat) (m : List UInt8)
    (h : ((DecIter.new cap s).take n)[i]? = some (some (Item.ok m))) :
    let rem := (iterAfter (DecIter.new cap s) (i + 1)).bytes
    rem.length ≤ s.length ∧ s.drop (s.length - rem.length) = rem ∧
      ∃ pre, s.take (s.length - rem.length) = pre ++ frame m := by
  intro rem
  obtain ⟨pre, hp⟩ := sound_iter_pos cap s n i m h
  have hl : s.length = (pre ++ frame m).length + rem.length := by
    conv => lhs; rw [hp]
    rw [List.length_append]
  have hk : s.length - rem.length = (pre ++ frame m).length := by omega
  refine ⟨by omega, ?_, pre, ?_⟩
  · rw [hk]; conv => lhs; rw [hp]
    exact List.drop_left
  · rw [hk]; conv => lhs; rw [hp]
    exact List.take_left

theorem pull_bytes_suffix (bs : List UInt8) : ∀ d : Dec, (DecIter.pull d bs).1.bytes <:+ bs := by
  induction bs with
  | nil => intro d; exact List.suffix_refl _
  | cons b bs ih =>
    intro d
    cases hx : (d.push b).2.toItem? with
    | none =>
      rw [DecIter.pull_cons, hx]
      exact (ih _).trans (List.suffix_cons _ _)
    | some x =>
      rw [DecIter.pull_cons, hx]
      exact List.suffix_cons _ _

theorem next_bytes_suffix (it : DecIter) : it.next.1.bytes <:+ it.bytes := by
  unfold DecIter.next
  split
  · exact List.suffix_refl _
  · exact pull_bytes_suffix _ _

theorem iterAfter_bytes_suffix (k : Nat) : ∀ it : DecIter,
    (iterAfter it (k + 1)).bytes <:+ (iterAfter it k).bytes := by
  induction k with
  | zero => intro it; exact next_bytes_suffix it
  | succ k ih => intro it; exact ih it.next.1

/-- the events that make `DecoderReader::read` reset the decoder: every error of the source other
than `WouldBlock`; `Interrupted` is such an error except over `std::io::Read`, where `read_exact`
retries; a mid-stream end of input (`Ev.eof`) is one for every source kind (kind `Eof`, resp.
`Other` over embedded-hal).  These are the events `e` with `Rdr.evOps kind e = [.reset]`
(`evBytes_since_snoc`). -/
def resets (kind : SrcKind) : Ev → Bool
  | .other => true
  | .eof => true
  | .interrupted => kind != .io
  | _ => false

def sinceStep (kind : SrcKind) (acc : List Ev) (e : Ev) : List Ev :=
  if resets kind e then [] else acc ++ [e]

/-- the suffix of an event list after its last resetting event (everything if there is none) -/
def sinceReset (kind : SrcKind) (evs : List Ev) : List Ev := evs.foldl (sinceStep kind) []

theorem sinceReset_snoc (kind : SrcKind) (evs : List Ev) (e : Ev) :
    sinceReset kind (evs ++ [e]) = sinceStep kind (sinceReset kind evs) e := by
  simp [sinceReset, List.foldl_append]

/-- `sinceReset` is what its name says: a suffix without resetting events that is either the whole
list or is preceded by a resetting event.  By induction from the right: the last event either
empties the suffix or extends it. -/
theorem sinceReset_spec (kind : SrcKind) (evs : List Ev) :
    ∃ pre, evs = pre ++ sinceReset kind evs ∧ (∀ e ∈ sinceReset kind evs, resets kind e = false) ∧
      (pre = [] ∨ ∃ pre' e, pre = pre' ++ [e] ∧ resets kind e = true) := by
  rw [← List.reverse_reverse evs]
  induction evs.reverse with
  | nil => exact ⟨[], rfl, (fun _ he => nomatch he), Or.inl rfl⟩
  | cons e l ih =>
    obtain ⟨pre, g1, g2, g3⟩ := ih
    rw [List.reverse_cons, sinceReset_snoc, sinceStep]
    generalize l.reverse = evs at *
    by_cases hr : resets kind e = true
    · rw [if_pos hr]
      exact ⟨evs ++ [e], (List.append_nil _).symm, (fun _ he => nomatch he), Or.inr ⟨evs, e, rfl, hr⟩⟩
    · rw [if_neg hr]
      refine ⟨pre, by rw [← List.append_assoc, ← g1], fun x hx => ?_, g3⟩
      rcases List.mem_append.1 hx with hx | hx
      · exact g2 x hx
      · rw [List.mem_singleton.1 hx]; simpa using hr

theorem evBytes_append (a b : List Ev) : evBytes (a ++ b) = evBytes a ++ evBytes b := by
  simp [evBytes]

/-- one more event: the bytes since the last reset change as the bytes consumed change under the
operations the event causes (`resets kind e` is `Rdr.evOps kind e = [.reset]`) -/
theorem evBytes_since_snoc (kind : SrcKind) (done : List Ev) (e : Ev) :
    evBytes (sinceReset kind (done ++ [e])) =
      (Rdr.evOps kind e).foldl Dec.consStep (evBytes (sinceReset kind done)) := by
  rw [sinceReset_snoc]
  have skip : ∀ e, evBytes [e] = [] →
      evBytes (sinceReset kind done ++ [e]) = evBytes (sinceReset kind done) := fun e h => by
    rw [evBytes_append, h, List.append_nil]
  cases e with
  | byte b => cases kind <;> exact evBytes_append _ [_]
  | wouldBlock => cases kind <;> exact skip _ rfl
  | interrupted => cases kind <;> first | rfl | exact skip _ rfl
  | _ => cases kind <;> rfl

/-- the invariant: `done` = events consumed so far; the window of the decoder ends the bytes of
the events since the last reset -/
def PInv (kind : SrcKind) (done : List Ev) (d : Dec) : Prop :=
  ∃ w, Dec.WInv w d ∧ w <:+ evBytes (sinceReset kind done)

theorem pinv_evStep {kind : SrcKind} {done : List Ev} {d : Dec} (h : PInv kind done d) (e : Ev) :
    PInv kind (done ++ [e]) (Rdr.evStep kind d e).1 ∧
      ∀ m, (Rdr.evStep kind d e).2 = [.ok m] →
        ∃ pre, evBytes (sinceReset kind (done ++ [e])) = pre ++ frame m := by
  obtain ⟨w, hw, hc⟩ := h
  obtain ⟨w', _, g1, g2, _⟩ := Dec.winv_run (Rdr.evOps kind e) hw hc (b := 0) rfl
  refine ⟨⟨w', by rw [Rdr.evStep_fst]; exact g1, evBytes_since_snoc kind done e ▸ g2⟩, fun m hm => ?_⟩
  rw [evBytes_since_snoc]
  cases e with
  | byte b =>
    have hm : RF.outItem (d.push b).2 = [.ok m] := hm
    have ho : (d.step (.push b)).2 = .out (.msg m) := by
      show OpOut.out (d.push b).2 = _
      cases ho : (d.push b).2 <;> simp [ho, RF.outItem] at hm
      rw [hm]
    obtain ⟨pre, hp⟩ := Dec.step_msg hw hc ho
    exact ⟨pre, hp.symm⟩
  | interrupted => cases kind <;> cases hm
  | _ => cases hm

theorem view_idle_ne_ok (kind : SrcKind) (c : Rdr.Call) (m : List UInt8) :
    RF.view c (Rdr.idleItem kind) ≠ .ok m := fun h => by
  have := RF.view_eq_of h nofun nofun
  unfold Rdr.idleItem at this
  split at this <;> cases this

/-- one induction along the events: every event is taken by the first call that is still waiting
(`Rdr.calls_evs_nil`, `calls_evs_cons`) -/
theorem calls_pos (kind : SrcKind) (evs : List Ev) : ∀ (done : List Ev) (d : Dec)
    (cs : List Rdr.Call) (i : Nat) (m : List UInt8), PInv kind done d →
    (({ kind := kind, dec := d, evs := evs } : Rdr).calls cs).2[i]? = some (RItem.ok m) →
    ∃ used, evs = used ++
        (({ kind := kind, dec := d, evs := evs } : Rdr).calls (cs.take (i + 1))).1.evs ∧
      ∃ pre, evBytes (sinceReset kind (done ++ used)) = pre ++ frame m := by
  induction evs with
  | nil =>
    intro done d cs i m _ h
    exfalso
    cases cs with
    | nil => simp [Rdr.calls_nil] at h
    | cons c cs =>
      rw [Rdr.calls_evs_nil, Rdr.calls_idle kind cs _ (Rdr.atEnd_idle kind d)] at h
      cases i with
      | zero =>
        have := RF.view_eq_of (Option.some.inj h) nofun nofun
        cases kind <;> cases this
      | succ i =>
        rw [List.getElem?_cons_succ, List.getElem?_map] at h
        cases hc : cs[i]? with
        | none => rw [hc] at h; cases h
        | some c' => rw [hc] at h; exact view_idle_ne_ok kind c' m (Option.some.inj h)
  | cons e evs ih =>
    intro done d cs i m hd h
    cases cs with
    | nil => simp [Rdr.calls_nil] at h
    | cons c cs =>
      obtain ⟨h1, h2⟩ := pinv_evStep hd e
      rw [Rdr.calls_evs_cons] at h
      rw [List.take_succ_cons, Rdr.calls_evs_cons]
      rcases Rdr.evStep_cases kind d e with hq | ⟨x, hx⟩
      · simp only [hq] at h ⊢
        obtain ⟨used, g1, g2⟩ := ih (done ++ [e]) _ (c :: cs) i m h1 h
        rw [List.take_succ_cons] at g1
        exact ⟨e :: used, by rw [List.cons_append, ← g1], by simpa using g2⟩
      · simp only [hx] at h ⊢
        cases i with
        | zero =>
          rw [List.getElem?_cons_zero] at h
          have := h2 m (by rw [hx, RF.view_eq_of (Option.some.inj h) nofun nofun])
          exact ⟨[e], rfl, this⟩
        | succ i =>
          rw [List.getElem?_cons_succ] at h
          obtain ⟨used, g1, g2⟩ := ih (done ++ [e]) _ cs i m h1 h
          exact ⟨e :: used, by rw [List.cons_append, ← g1], by simpa using g2⟩

/-- `DecoderReader` over any byte source (slice / iterator, `std::io::Read`, embedded-hal) with
arbitrary faults and any sequence of `read` / `next` / `read_nb` / `next_nb` calls.  If call number
`i` returns the payload `m`, let `r` be the reader after that call and `consumed` the events it has
taken from the source so far.  Then the bytes delivered by the events of `consumed` that come after
the last event which made the reader reset the decoder (`sinceReset`: an error other than
`WouldBlock`; `Interrupted` counts unless the source is an `io::Read`; a mid-stream end of input
`Ev.eof` counts for every source) end with exactly `frame m`.
So a frame is never assembled from bytes on both sides of an I/O error or of a mid-stream end of
input, and never reported before its last byte has been read. -/
theorem sound_reader_pos (kind : SrcKind) (cap : Option Nat) (evs : List Ev) (cs : List Rdr.Call)
    (i : Nat) (m : List UInt8)
    (h : ((Rdr.new kind cap evs).calls cs).2[i]? = some (RItem.ok m)) :
    let r := ((Rdr.new kind cap evs).calls (cs.take (i + 1))).1
    let consumed := evs.take (evs.length - r.evs.length)
    evs = consumed ++ r.evs ∧
      ∃ pre, evBytes (sinceReset kind consumed) = pre ++ frame m := by
  intro r consumed
  have h0 : PInv (Rdr.new kind cap evs).kind [] (Rdr.new kind cap evs).dec :=
    ⟨[], Dec.winv_fresh cap, List.nil_suffix⟩
  obtain ⟨used, h1, pre, h2⟩ := calls_pos kind evs [] (Dec.fresh cap) cs i m h0 h
  have h1' : evs = used ++ r.evs := h1
  have hc : consumed = used := by
    show evs.take (evs.length - r.evs.length) = used
    conv => lhs; rw [h1']
    rw [List.length_append, Nat.add_sub_cancel]
    exact List.take_left
  rw [hc]
  have h2' : evBytes (sinceReset kind ([] ++ used)) = pre ++ frame m := h2
  rw [List.nil_append] at h2'
  exact ⟨h1', pre, h2'⟩

/-- `DecoderReader` over any byte source (slice / iterator, `std::io::Read`, embedded-hal) with
arbitrary faults (`WouldBlock`, `Interrupted`, other errors, end of input — final or mid-stream,
`Ev.eof`, after which the source delivers more) and any sequence of
`read` / `next` / `read_nb` / `next_nb` calls: every returned payload comes from a canonical frame
that occurs as a contiguous block in the bytes the source delivered. -/
theorem sound_reader (kind : SrcKind) (cap : Option Nat) (evs : List Ev) (cs : List Rdr.Call)
    (i : Nat) (m : List UInt8)
    (h : ((Rdr.new kind cap evs).calls cs).2[i]? = some (RItem.ok m)) :
    ∃ pre post, evBytes evs = pre ++ frame m ++ post := by
  obtain ⟨h1, pre, h2⟩ := sound_reader_pos kind cap evs cs i m h
  obtain ⟨p, h3, _⟩ := sinceReset_spec kind
    (evs.take (evs.length - ((Rdr.new kind cap evs).calls (cs.take (i + 1))).1.evs.length))
  refine ⟨evBytes p ++ pre, evBytes ((Rdr.new kind cap evs).calls (cs.take (i + 1))).1.evs, ?_⟩
  conv => lhs; rw [h1, h3]
  rw [evBytes_append, evBytes_append, h2]
  simp

/-- the positions (number of bytes consumed, counted from `i`) at which the answers that are not
`Ok(None)` occur -/
def itemPos (i : Nat) : List Out → List Nat
  | [] => []
  | .none :: os => itemPos (i + 1) os
  | _ :: os => (i + 1) :: itemPos (i + 1) os

/-- Plan: induction on the answers with the start position `i` general; `Ok(None)` contributes
neither an item nor a position, every other answer contributes one of each (`e1`, `e2`), and the
facts about the tail are shifted by one position (`tail`, `bound`). -/
theorem itemPos_spec (outs : List Out) : ∀ i : Nat,
    (itemPos i outs).length = (C15.items outs).length ∧
    (∀ k ∈ itemPos i outs, i < k ∧ k ≤ i + outs.length) ∧
    (itemPos i outs).Pairwise (· < ·) ∧
    ∀ j k : Nat, (itemPos i outs)[j]? = some k →
      (C15.items outs)[j]? = (outs[k - 1 - i]?).bind Out.toItem? := by
  induction outs with
  | nil => intro i; simp [itemPos, C15.items]
  | cons o os ih =>
    intro i
    obtain ⟨a1, a2, a3, a4⟩ := ih (i + 1)
    -- an item of the tail, seen from position `i`
    have tail : ∀ j k : Nat, (itemPos (i + 1) os)[j]? = some k →
        (C15.items os)[j]? = ((o :: os)[k - 1 - i]?).bind Out.toItem? := fun j k hjk => by
      have hk := a2 k (List.mem_of_getElem? hjk)
      rw [a4 j k hjk, show k - 1 - i = (k - 1 - (i + 1)) + 1 by omega, List.getElem?_cons_succ]
    have bound : ∀ k ∈ itemPos (i + 1) os, i < k ∧ k ≤ i + (o :: os).length := fun k hk => by
      have := a2 k hk
      simp only [List.length_cons]
      omega
    cases ho : o.toItem? with
    | none =>
      obtain rfl := toItem?_eq_none ho
      have e2 : C15.items (Out.none :: os) = C15.items os := List.filterMap_cons_none rfl
      rw [show itemPos i (Out.none :: os) = itemPos (i + 1) os from rfl, e2]
      exact ⟨a1, bound, a3, tail⟩
    | some x =>
      have e2 : C15.items (o :: os) = x :: C15.items os := by simp [C15.items, ho]
      have e1 : itemPos i (o :: os) = (i + 1) :: itemPos (i + 1) os := by
        cases o <;> first | rfl | cases ho
      rw [e1, e2]
      refine ⟨by simp [a1], ?_, ?_, ?_⟩
      · intro k hk
        rcases List.mem_cons.1 hk with rfl | hk
        · simp only [List.length_cons]; omega
        · exact bound k hk
      · rw [List.pairwise_cons]
        exact ⟨fun k hk => (a2 k hk).1, a3⟩
      · intro j k hjk
        cases j with
        | zero =>
          simp only [List.getElem?_cons_zero, Option.some.injEq] at hjk
          subst hjk
          simp [ho]
        | succ j =>
          simp only [List.getElem?_cons_succ] at hjk ⊢
          exact tail j k hjk

/-- `decode(bytes)`: with `pos = itemPos 0 (answers of push_byte)` - the strictly increasing list
of byte positions at which an item is produced -
  * item number `j` of the result is the answer to byte number `pos[j]` (1-based),
  * at most one more item follows (the `DiscardedBytes` of `finalize`, never a payload),
  * a payload `m` as item `j` means: the first `pos[j]` bytes of the input end with `frame m`.
Hence the frames of successive payload items end at strictly increasing positions, each at or
before the end of the input. -/
theorem sound_decodeAll_pos (s : List UInt8) :
    ∃ pos : List Nat, pos = itemPos 0 (Dec.pushAll (Dec.fresh none) s).2 ∧
      pos.Pairwise (· < ·) ∧ (∀ k ∈ pos, 1 ≤ k ∧ k ≤ s.length) ∧
      pos.length ≤ (decodeAll s).length ∧ (decodeAll s).length ≤ pos.length + 1 ∧
      (∀ j k : Nat, pos[j]? = some k →
        (decodeAll s)[j]? = ((Dec.pushAll (Dec.fresh none) s).2[k - 1]?).bind Out.toItem?) ∧
      ∀ (j : Nat) (m : List UInt8), (decodeAll s)[j]? = some (Item.ok m) →
        ∃ k pre, pos[j]? = some k ∧ s.take k = pre ++ frame m := by
  obtain ⟨a1, a2, a3, a4⟩ := itemPos_spec (Dec.pushAll (Dec.fresh none) s).2 0
  obtain ⟨fin, hdec, hfl, hfin⟩ : ∃ fin : List Item,
      decodeAll s = C15.items (Dec.pushAll (Dec.fresh none) s).2 ++ fin ∧ fin.length ≤ 1 ∧
        ∀ (j : Nat) (m : List UInt8), fin[j]? ≠ some (Item.ok m) := by
    refine ⟨_, C15.decode_eq s, ?_, ?_⟩
    · split <;> simp
    · intro j m
      split
      · cases j <;> simp
      · simp
  refine ⟨_, rfl, a3, ?_, ?_, ?_, ?_, ?_⟩
  · intro k hk
    have := a2 k hk
    rw [Dec.pushAll_length] at this
    omega
  · rw [hdec, List.length_append, a1]; omega
  · rw [hdec, List.length_append, a1]; omega
  · intro j k hjk
    have hlt : j < (C15.items (Dec.pushAll (Dec.fresh none) s).2).length :=
      a1 ▸ (List.getElem?_eq_some_iff.1 hjk).1
    rw [hdec, List.getElem?_append_left hlt, a4 j k hjk]
    simp
  · intro j m hjm
    rw [hdec] at hjm
    rcases Nat.lt_or_ge j (C15.items (Dec.pushAll (Dec.fresh none) s).2).length with hlt | hge
    · rw [List.getElem?_append_left hlt] at hjm
      have hjp : j < (itemPos 0 (Dec.pushAll (Dec.fresh none) s).2).length := by rw [a1]; exact hlt
      have hk? := List.getElem?_eq_getElem hjp
      have b1 := a4 j _ hk?
      have hk := a2 _ (List.getElem_mem hjp)
      rw [hjm, Nat.sub_zero] at b1
      cases ho : (Dec.pushAll (Dec.fresh none) s).2[
          (itemPos 0 (Dec.pushAll (Dec.fresh none) s).2)[j] - 1]? with
      | none => rw [ho] at b1; cases b1
      | some o =>
        rw [ho] at b1
        obtain rfl := toItem?_eq_ok b1.symm
        obtain ⟨pre, hp⟩ := sound_stream none s _ m ho
        refine ⟨_, pre, hk?, ?_⟩
        rw [← hp]
        congr 1
        omega
    · rw [List.getElem?_append_right hge] at hjm
      exact absurd hjm (hfin _ m)

/-- the iterator: noise, a frame, two more bytes; the second call returns the payload and has then
consumed everything but the last two bytes -/
example : (DecIter.new none ([0xaa] ++ frame [1, 2] ++ [0xbb, 0xcc])).take 3 =
    [some (Item.err (.discarded 1)), some (Item.ok [1, 2]), some (Item.err (.discarded 2))] := by
  decide +kernel

example : (iterAfter (DecIter.new none ([0xaa] ++ frame [1, 2] ++ [0xbb, 0xcc])) 2).bytes =
    [0xbb, 0xcc] := by decide +kernel

/-- `sinceReset`: over an `io::Read` only `other` and `eof` reset, over the other sources
`interrupted` does, too -/
example : sinceReset .io [.byte 1, .other, .byte 2, .interrupted, .wouldBlock, .byte 3] =
    [.byte 2, .interrupted, .wouldBlock, .byte 3] := by decide
example : sinceReset .mem [.byte 1, .other, .byte 2, .interrupted, .wouldBlock, .byte 3] =
    [.wouldBlock, .byte 3] := by decide

/-- a frame interrupted by a source error is not delivered (the bytes before and after the error
together are `frame [1, 2]`, but they are never glued together) ... -/
example : ((Rdr.new .io none (((frame [1, 2]).take 10).map Ev.byte ++ [Ev.other] ++
      ((frame [1, 2]).drop 10).map Ev.byte)).calls [.read, .read, .read]).2 =
    [.ioErr .other 10, .ioErr .eof 10, .ioErr .eof 0] := by decide +kernel

/-- ... while `Interrupted` (retried by `read_exact`) and `WouldBlock` inside a frame do no harm
over an `io::Read` ... -/
example : ((Rdr.new .io none (((frame [1, 2]).take 10).map Ev.byte ++
      [Ev.interrupted, Ev.wouldBlock] ++ ((frame [1, 2]).drop 10).map Ev.byte)).calls
        [.read, .read, .read]).2 =
    [.ioErr .wouldBlock 0, .ok [1, 2], .ioErr .eof 0] := by decide +kernel

/-- ... but `Interrupted` is an error for the other sources -/
example : ((Rdr.new .mem none (((frame [1, 2]).take 10).map Ev.byte ++ [Ev.interrupted] ++
      ((frame [1, 2]).drop 10).map Ev.byte)).calls [.read, .read, .read]).2 =
    [.ioErr .other 10, .ioErr .eof 10, .ioErr .eof 0] := by decide +kernel

/-- a mid-stream end of input inside a frame: the two halves are not glued together (`read`
reports the 10 pending bytes with the `Eof` error, the second half is noise) -/
example : ((Rdr.new .io none (((frame [1, 2]).take 10).map Ev.byte ++ [Ev.eof] ++
      ((frame [1, 2]).drop 10).map Ev.byte)).calls [.read, .next, .next]).2 =
    [.ioErr .eof 10, .ioErr .eof 10, .none] := by decide +kernel

/-- ... and one between two frames: both are delivered, `sinceReset` of the events consumed up to
the second delivery is exactly the second frame -/
example : ((Rdr.new .io none ((frame [1, 2]).map Ev.byte ++ [Ev.eof] ++
      (frame [3]).map Ev.byte)).calls [.next, .next, .next, .next]).2 =
    [.ok [1, 2], .none, .ok [3], .none] := by decide +kernel

example : sinceReset .io ((frame [1, 2]).map Ev.byte ++ [Ev.eof] ++ (frame [3]).map Ev.byte) =
    (frame [3]).map Ev.byte := by decide +kernel

example : decodeAll ([0xaa] ++ frame [1, 2] ++ [0xbb] ++ frame [3]) =
    [.err (.discarded 1), .ok [1, 2], .err (.discarded 1), .ok [3]] := by decide +kernel

example : itemPos 0 (Dec.pushAll (Dec.fresh none) ([0xaa] ++ frame [1, 2] ++ [0xbb] ++ frame [3])).2 =
    [9, 21, 30, 42] := by decide +kernel

end Sml.C02
