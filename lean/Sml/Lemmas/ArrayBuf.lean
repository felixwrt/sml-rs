import Sml.Lemmas.Buf
/-
  `ArrayBuf<N>` (real representation: stale bytes, explicit panic sites) and the abstract `Buf`
  against the ideal bounded byte vector `IdealVec`; the property theorems are in
  `Sml/Props/C18.lean`.
-/

namespace Sml.C18
open Sml

/-- One `Buffer` trait operation (util.rs:124-149). -/
inductive BOp where
  | push (b : UInt8)
  | extend (s : List UInt8)
  | truncate (k : Nat)
  | clear
  deriving Repr, DecidableEq

/-- Apply one operation to the real `ArrayBuf`.  `truncate` / `clear` are infallible in Rust. -/
def ArrayBuf.apply (a : ArrayBuf) : BOp → BufRes ArrayBuf
  | .push b => a.push b
  | .extend s => a.extendFromSlice s
  | .truncate k => .ok (a.truncate k)
  | .clear => .ok a.clear

/-- Apply one operation to the ideal vector; `none` = `Err(OutOfMemory)`. -/
def IdealVec.apply (v : IdealVec) : BOp → Option IdealVec
  | .push b => v.push b
  | .extend s => v.extend s
  | .truncate k => some (v.truncate k)
  | .clear => some v.clear

/-- Apply one operation to the abstract `Buf`; `none` = `Err(OutOfMemory)`. -/
def Buf.apply (b : Buf) : BOp → Option Buf
  | .push x => b.push x
  | .extend s => b.extend s
  | .truncate k => some (b.truncate k)
  | .clear => some b.clear

/-- The visible contents of an `ArrayBuf`: the first `numElements` bytes of the backing array. -/
def abs (a : ArrayBuf) : List UInt8 := a.buffer.take a.numElements

/-- Representation invariant: `num_elements ≤ N`. -/
def WF (a : ArrayBuf) : Prop := a.numElements ≤ a.buffer.length

instance (a : ArrayBuf) : Decidable (WF a) := by unfold WF; infer_instance

inductive Tag where
  | ok
  | oom
  | panic
  deriving Repr, DecidableEq

/-- Run a sequence of operations on the real `ArrayBuf`.  For each operation the result tag and the
    state after it are recorded.  On `oom` the state is kept (Rust returns `Err` without touching
    `self`); on a panic the run stops. -/
def ArrayBuf.run (a : ArrayBuf) : List BOp → List (Tag × ArrayBuf)
  | [] => []
  | op :: ops =>
    match ArrayBuf.apply a op with
    | .ok a' => (.ok, a') :: ArrayBuf.run a' ops
    | .oom => (.oom, a) :: ArrayBuf.run a ops
    | .panic _ => [(.panic, a)]

def ArrayBuf.final (a : ArrayBuf) : List BOp → ArrayBuf
  | [] => a
  | op :: ops =>
    match ArrayBuf.apply a op with
    | .ok a' => ArrayBuf.final a' ops
    | .oom => ArrayBuf.final a ops
    | .panic _ => a

def IdealVec.run (v : IdealVec) : List BOp → List (Tag × IdealVec)
  | [] => []
  | op :: ops =>
    match IdealVec.apply v op with
    | some v' => (.ok, v') :: IdealVec.run v' ops
    | none => (.oom, v) :: IdealVec.run v ops

def IdealVec.final (v : IdealVec) : List BOp → IdealVec
  | [] => v
  | op :: ops =>
    match IdealVec.apply v op with
    | some v' => IdealVec.final v' ops
    | none => IdealVec.final v ops

def Buf.run (b : Buf) : List BOp → List (Tag × Buf)
  | [] => []
  | op :: ops =>
    match Buf.apply b op with
    | some b' => (.ok, b') :: Buf.run b' ops
    | none => (.oom, b) :: Buf.run b ops

/-- `PartialEq::eq` (util.rs:99-103): `**self == **other`, both derefs may panic. -/
def ArrayBuf.eqv (a b : ArrayBuf) : BufRes Bool :=
  match a.deref with
  | .ok x =>
    match b.deref with
    | .ok y => .ok (decide (x = y))
    | .oom => .oom
    | .panic s => .panic s
  | .oom => .oom
  | .panic s => .panic s

/-- `Debug::fmt` (util.rs:93-97) formats `**self`, i.e. a function of the deref result only. -/
def ArrayBuf.debugRepr (a : ArrayBuf) : BufRes (List UInt8) := a.deref

theorem abs_length {a : ArrayBuf} (h : WF a) : (abs a).length = a.numElements := by
  unfold abs WF at *; simp; omega

theorem deref_of_WF {a : ArrayBuf} (h : WF a) : a.deref = .ok (abs a) := by
  unfold ArrayBuf.deref abs; unfold WF at h; simp [h]

theorem WF_new (n : Nat) : WF (ArrayBuf.new n) := by simp [WF, ArrayBuf.new]
theorem N_new (n : Nat) : (ArrayBuf.new n).N = n := by simp [ArrayBuf.N, ArrayBuf.new]
theorem abs_new (n : Nat) : abs (ArrayBuf.new n) = [] := by simp [abs, ArrayBuf.new]

theorem push_ok {a : ArrayBuf} (b : UInt8) (hlt : a.numElements < a.N) :
    ∃ a', a.push b = .ok a' ∧ WF a' ∧ a'.N = a.N ∧ abs a' = abs a ++ [b] ∧
      a'.numElements = a.numElements + 1 := by
  unfold WF ArrayBuf.N at *
  refine ⟨{ buffer := a.buffer.set a.numElements b, numElements := a.numElements + 1 }, ?_, ?_, ?_, ?_,
    rfl⟩
  · unfold ArrayBuf.push ArrayBuf.N
    rw [if_neg (by omega), if_pos hlt]
  · simp; omega
  · simp
  · show (a.buffer.set _ b).take (_ + 1) = a.buffer.take _ ++ [b]
    rw [List.take_succ_eq_append_getElem (by simpa using hlt)]
    simp [List.take_set_of_le]

theorem push_oom {a : ArrayBuf} (b : UInt8) (h : WF a) (hge : ¬ a.numElements < a.N) :
    a.push b = .oom := by
  unfold WF ArrayBuf.N at *
  unfold ArrayBuf.push ArrayBuf.N
  rw [if_pos (by omega)]

theorem extend_ok {a : ArrayBuf} (s : List UInt8) (h : WF a)
    (hle : a.numElements + s.length ≤ a.N) :
    ∃ a', a.extendFromSlice s = .ok a' ∧ WF a' ∧ a'.N = a.N ∧ abs a' = abs a ++ s := by
  unfold WF ArrayBuf.N at *
  have hlen : (a.buffer.take a.numElements ++ s ++ a.buffer.drop (a.numElements + s.length)).length
      = a.buffer.length := by
    rw [List.length_append, List.length_append, List.length_take_of_le h, List.length_drop]; omega
  refine ⟨{ buffer := a.buffer.take a.numElements ++ s ++ a.buffer.drop (a.numElements + s.length),
            numElements := a.numElements + s.length }, ?_, ?_, hlen, ?_⟩
  · unfold ArrayBuf.extendFromSlice ArrayBuf.N
    rw [if_neg (Nat.not_lt.2 hle), if_pos ⟨h, Nat.le_sub_of_add_le' hle⟩]
  · exact hlen ▸ hle
  · exact List.take_left' (by rw [List.length_append, List.length_take_of_le h])

theorem extend_oom {a : ArrayBuf} (s : List UInt8) (hgt : ¬ a.numElements + s.length ≤ a.N) :
    a.extendFromSlice s = .oom := by
  unfold ArrayBuf.extendFromSlice
  rw [if_pos (by omega)]

theorem truncate_ok {a : ArrayBuf} (k : Nat) (h : WF a) :
    WF (a.truncate k) ∧ (a.truncate k).N = a.N ∧ abs (a.truncate k) = (abs a).take k := by
  unfold WF ArrayBuf.N abs ArrayBuf.truncate at *
  refine ⟨?_, rfl, ?_⟩
  · simp; omega
  · simp [List.take_take, Nat.min_comm]

theorem clear_ok {a : ArrayBuf} : WF a.clear ∧ a.clear.N = a.N ∧ abs a.clear = [] := by
  simp [WF, ArrayBuf.N, abs, ArrayBuf.clear]

/-- One operation on a well-formed `ArrayBuf` and on the ideal vector with the same capacity and
    contents: both succeed, with the same contents afterwards, or the ideal vector refuses and the
    `ArrayBuf` answers `oom`. -/
theorem apply_cases {a : ArrayBuf} (h : WF a) (op : BOp) :
    (∃ a', ArrayBuf.apply a op = .ok a' ∧ WF a' ∧ a'.N = a.N ∧
      IdealVec.apply ⟨a.N, abs a⟩ op = some ⟨a.N, abs a'⟩) ∨
    (ArrayBuf.apply a op = .oom ∧ IdealVec.apply ⟨a.N, abs a⟩ op = none) := by
  cases op with
  | push b =>
    simp only [IdealVec.apply, IdealVec.push, abs_length h]
    by_cases hc : a.numElements < a.N
    · obtain ⟨a', h1, h2, h3, h4, _⟩ := push_ok b hc
      exact .inl ⟨a', h1, h2, h3, by rw [h4]; exact if_pos hc⟩
    · exact .inr ⟨push_oom b h hc, if_neg hc⟩
  | extend s =>
    simp only [IdealVec.apply, IdealVec.extend, abs_length h]
    by_cases hc : a.numElements + s.length ≤ a.N
    · obtain ⟨a', h1, h2, h3, h4⟩ := extend_ok s h hc
      exact .inl ⟨a', h1, h2, h3, by rw [h4]; exact if_pos hc⟩
    · exact .inr ⟨extend_oom s hc, if_neg hc⟩
  | truncate k =>
    obtain ⟨h1, h2, h3⟩ := truncate_ok k h
    exact .inl ⟨_, rfl, h1, h2, by rw [h3]; rfl⟩
  | clear =>
    obtain ⟨h1, h2, h3⟩ := clear_ok (a := a)
    exact .inl ⟨_, rfl, h1, h2, by rw [h3]; rfl⟩

/-- Everything C18 says about a run, for an arbitrary well-formed start state `a` and the ideal
    vector with the same capacity and contents. -/
theorem run_refines_from (ops : List BOp) {a : ArrayBuf} (h : WF a) :
    (ArrayBuf.run a ops).map (·.1) = (IdealVec.run ⟨a.N, abs a⟩ ops).map (·.1) ∧
    (ArrayBuf.run a ops).map (fun p => abs p.2)
      = (IdealVec.run ⟨a.N, abs a⟩ ops).map (fun p => p.2.data) ∧
    (ArrayBuf.run a ops).length = ops.length ∧
    abs (ArrayBuf.final a ops) = (IdealVec.final ⟨a.N, abs a⟩ ops).data ∧
    ∀ p ∈ ArrayBuf.run a ops, p.1 ≠ Tag.panic ∧ WF p.2 ∧ p.2.N = a.N := by
  induction ops generalizing a with
  | nil => exact ⟨rfl, rfl, rfl, rfl, fun _ hp => nomatch hp⟩
  | cons op ops ih =>
    simp only [ArrayBuf.run, IdealVec.run, ArrayBuf.final, IdealVec.final]
    rcases apply_cases h op with ⟨a', h1, h2, h3, h4⟩ | ⟨h1, h4⟩ <;> rw [h1, h4]
    · obtain ⟨i1, i2, i3, i4, i5⟩ := ih h2
      rw [h3] at i1 i2 i4 i5
      exact ⟨congrArg (_ :: ·) i1, congrArg (_ :: ·) i2, congrArg (· + 1) i3, i4,
        List.forall_mem_cons.2 ⟨⟨nofun, h2, h3⟩, i5⟩⟩
    · obtain ⟨i1, i2, i3, i4, i5⟩ := ih h
      exact ⟨congrArg (_ :: ·) i1, congrArg (_ :: ·) i2, congrArg (· + 1) i3, i4,
        List.forall_mem_cons.2 ⟨⟨nofun, h, rfl⟩, i5⟩⟩

/-- the loop of `from_iter`: all bytes if they fit, the `unwrap` panic if they do not -/
theorem fromIter_go_cases (xs : List UInt8) {a : ArrayBuf} (h : WF a) :
    (a.numElements + xs.length ≤ a.N →
      ∃ a', ArrayBuf.fromIter.go a xs = .ok a' ∧ WF a' ∧ a'.N = a.N ∧ abs a' = abs a ++ xs) ∧
    (a.N < a.numElements + xs.length → ∃ s, ArrayBuf.fromIter.go a xs = .panic s) := by
  induction xs generalizing a with
  | nil => exact ⟨fun _ => ⟨a, rfl, h, rfl, (List.append_nil _).symm⟩, fun hlt => absurd h (by
      unfold WF ArrayBuf.N at *; simp at hlt; omega)⟩
  | cons x xs ih =>
    simp only [ArrayBuf.fromIter.go, List.length_cons]
    by_cases hc : a.numElements < a.N
    · obtain ⟨a1, h1, h2, h3, h4, hn⟩ := push_ok x hc
      rw [h1, ← h3, List.append_cons, ← h4]
      exact ⟨fun hle => (ih h2).1 (by omega), fun hlt => (ih h2).2 (by omega)⟩
    · rw [push_oom x h hc]
      exact ⟨fun hle => absurd hle (by omega), fun _ => ⟨_, rfl⟩⟩

/-- Collecting at most `N` bytes yields exactly those bytes. -/
theorem fromIter_ok (N : Nat) (xs : List UInt8) (h : xs.length ≤ N) :
    ∃ a, ArrayBuf.fromIter N xs = .ok a ∧ WF a ∧ a.N = N ∧ abs a = xs := by
  obtain ⟨a, h1, h2, h3, h4⟩ :=
    (fromIter_go_cases xs (WF_new N)).1 (by rw [N_new]; simpa [ArrayBuf.new] using h)
  exact ⟨a, h1, h2, by rw [h3, N_new], by rw [h4, abs_new]; simp⟩

theorem eqv_of_WF {a b : ArrayBuf} (ha : WF a) (hb : WF b) :
    ArrayBuf.eqv a b = .ok (decide (abs a = abs b)) := by
  simp only [ArrayBuf.eqv, deref_of_WF ha, deref_of_WF hb]

theorem buf_len (b : Buf) : b.data.length = b.rdata.length := by simp [Buf.data]

def absV (N : Nat) (b : Buf) : IdealVec := ⟨N, b.data⟩

/-- every operation on a `Buf` of capacity `N` commutes with the abstraction -/
theorem buf_apply_abs (b : Buf) (N : Nat) (hc : b.cap = some N) (op : BOp) :
    (Buf.apply b op).map (absV N) = IdealVec.apply (absV N b) op := by
  have hext (s : List UInt8) : (b.extend s).map (absV N) = (absV N b).extend s := by
    rw [Sml.Buf.extend_eq, hc]
    simp only [IdealVec.extend, absV, buf_len, C07.fitsCap_some, Buf.len]
    split <;> simp [Buf.data, absV]
  cases op with
  | push x => exact (congrArg _ (Sml.Buf.push_eq_extend b x)).trans (hext [x])
  | extend s => exact hext s
  | truncate k =>
    simp [Buf.apply, IdealVec.apply, absV, Buf.truncate, Buf.data, IdealVec.truncate,
      List.take_reverse]
  | clear => simp [Buf.apply, IdealVec.apply, absV, Buf.clear, Buf.data, IdealVec.clear]

theorem buf_apply_data (b : Buf) (N : Nat) (hc : b.cap = some N) (op : BOp) :
    (Buf.apply b op).map Buf.data = (IdealVec.apply ⟨N, b.data⟩ op).map IdealVec.data := by
  rw [← absV, ← buf_apply_abs b N hc op, Option.map_map]; rfl

theorem buf_apply_cap {b b' : Buf} {op : BOp} (h : Buf.apply b op = some b') : b'.cap = b.cap := by
  cases op with
  | push x => exact Sml.Buf.push_cap h
  | extend s => exact (Sml.Buf.extend_some h).1
  | truncate k => cases h; rfl
  | clear => cases h; rfl

theorem buf_apply_bound {b b' : Buf} {N : Nat} {op : BOp} (hc : b.cap = some N)
    (hl : b.data.length ≤ N) (h : Buf.apply b op = some b') : b'.data.length ≤ N := by
  have hwf : ∀ {s}, b.extend s = some b' → b'.data.length ≤ N := fun h => by
    have ⟨h1, _, _, h4⟩ := Sml.Buf.extend_some h
    rw [Sml.Buf.WF, h1, hc] at h4
    exact buf_len b' ▸ h4
  cases op with
  | push x => exact hwf ((Sml.Buf.push_eq_extend b x).symm.trans h)
  | extend s => exact hwf h
  | truncate k => cases h; simp [Buf.truncate, Buf.data] at hl ⊢; omega
  | clear => cases h; exact Nat.zero_le _

end Sml.C18
