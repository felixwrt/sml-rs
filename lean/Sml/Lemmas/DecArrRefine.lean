import Sml.Model.DecodeArr
import Sml.Lemmas.ArrayBuf
import Sml.Lemmas.DecInv
/-
  `DecA` (Sml/Model/DecodeArr.lean: the push decoder on the real `ArrayBuf` representation, backing
  array with stale bytes + `num_elements`, explicit panic outcomes) against `Dec`: a forward
  simulation along `absD` (buffer := capacity `N`, the visible bytes) under the invariant
  `WF d.buf` (`num_elements ≤ N`).  So the `ArrayBuf` panic sites are never hit and stale bytes
  never reach a result.

  Each function of `DecA` has one lemma, a term that follows the branches of the function:
  `rel_ite` at an `if`, `RelK.ctl` where only control fields are set, `RelP.bind` / `afterPush_sim`
  where the buffer is pushed to.  The terms rely on the unifier unfolding the model functions; after
  a change of the model a term fails without saying where: `unfold` both functions and apply the
  `rel_ite`s one at a time.
-/

namespace Sml.C18
open Sml

-- the unifier must not evaluate digests when it matches the two decoders' states
attribute [local irreducible] crcUpdate crcByte startCrc crcFinal crcInit

/-- capacity `N`, the visible bytes (newest first) -/
def absB (a : ArrayBuf) : Buf := { cap := some a.N, rdata := (abs a).reverse }

def absD (d : DecA) : Dec :=
  { raw := d.raw, crc := d.crc, st := d.st, zc := d.zc, buf := absB d.buf }

theorem absB_cap (a : ArrayBuf) : (absB a).cap = some a.N := rfl

theorem absB_clear (a : ArrayBuf) : absB a.clear = (absB a).clear := by
  simp [absB, abs, ArrayBuf.clear, Buf.clear, ArrayBuf.N]

theorem WF_clear (a : ArrayBuf) : WF a.clear := clear_ok.1

theorem absB_new (n : Nat) : absB (ArrayBuf.new n) = Buf.new (some n) := by
  simp [absB, abs_new, N_new, Buf.new]

theorem bufPush_sim {a : ArrayBuf} (b : UInt8) (h : WF a) :
    (∃ a', a.push b = .ok a' ∧ WF a' ∧ a'.N = a.N ∧ (absB a).push b = some (absB a')) ∨
    (a.push b = .oom ∧ (absB a).push b = none) := by
  have hl := abs_length h
  by_cases hlt : a.numElements < a.N
  · obtain ⟨a', h1, h2, h3, h4, _⟩ := push_ok b hlt
    have : ¬ a.N ≤ (abs a).length := by omega
    exact .inl ⟨a', h1, h2, h3, by simp [Buf.push, Buf.isFull, absB, h3, h4, this]⟩
  · have : a.N ≤ (abs a).length := by omega
    exact .inr ⟨push_oom b h hlt, by simp [Buf.push, Buf.isFull, absB, this]⟩

theorem absD_reset (d : DecA) : absD d.reset.1 = (absD d).reset.1 := by
  simp [absD, DecA.reset, Dec.reset, absB_clear]

theorem reset_snd (d : DecA) : d.reset.2 = (absD d).reset.2 := rfl

theorem WF_reset (d : DecA) : WF d.reset.1.buf := WF_clear d.buf

theorem N_reset (d : DecA) : d.reset.1.buf.N = d.buf.N := rfl

theorem finalize_snd (d : DecA) : d.finalize.2 = (absD d).finalize.2 := rfl

theorem absD_fromBuf (a : ArrayBuf) : absD (DecA.fromBuf a) = Dec.fresh (some a.N) := by
  simp [absD, DecA.fromBuf, Dec.fresh, absB, abs, ArrayBuf.clear, ArrayBuf.N, Buf.new]

theorem absD_fresh (n : Nat) : absD (DecA.fresh n) = Dec.fresh (some n) := by
  rw [DecA.fresh, absD_fromBuf, N_new]

/-- `Dec.reset` only looks at the digest and the capacity -/
theorem reset_congr {d d' : Dec} (hc : d.crc = d'.crc) (hb : d.buf.cap = d'.buf.cap) :
    d.reset.1 = d'.reset.1 := by
  simp [Dec.reset, Buf.clear, hc, hb]

/-- Result `r` of a data push on the real buffer against the result `ra` on the abstract one, started
    with digest `c` and buffer size `n`.  `push_inner` resets `DecA` at the moment of failure,
    `Dec.afterPush` resets the state before the push: the out-of-memory case records what makes
    the two resets equal. -/
def RelP (c : UInt16) (n : Nat) : DecA.PushResA → Dec.PushRes → Prop
  | .ok d', ra => WF d'.buf ∧ d'.crc = c ∧ d'.buf.N = n ∧ ra = .ok (absD d')
  | .oom d', ra => WF d'.buf ∧ d'.crc = c ∧ d'.buf.N = n ∧ absD d' = (absD d').reset.1 ∧ ra = .oom
  | .panic s, ra => ra = .panic s

theorem RelP.refl {d : DecA} (h : WF d.buf) : RelP d.crc d.buf.N (.ok d) (.ok (absD d)) :=
  ⟨h, rfl, rfl, rfl⟩

/-- sequencing (the `?` operator): both sides go on after `ok` and stop otherwise -/
theorem RelP.bind {c : UInt16} {n : Nat} {r : DecA.PushResA} {ra : Dec.PushRes}
    {k : DecA → DecA.PushResA} {ka : Dec → Dec.PushRes} (h : RelP c n r ra)
    (hk : ∀ d', WF d'.buf → RelP d'.crc d'.buf.N (k d') (ka (absD d'))) :
    RelP c n (match (generalizing := false) r with | .ok d' => k d' | r => r)
      (match (generalizing := false) ra with | .ok d' => ka d' | r => r) := by
  cases r with
  | ok d' => obtain ⟨h1, rfl, rfl, rfl⟩ := h; exact hk d' h1
  | oom d' => obtain ⟨h1, h2, h3, h4, rfl⟩ := h; exact ⟨h1, h2, h3, h4, rfl⟩
  | panic s => cases h; rfl

theorem pushInner_sim (d : DecA) (b : UInt8) (h : WF d.buf) :
    RelP d.crc d.buf.N (d.pushInner b) (Dec.ofOpt ((absD d).pushInner b)) := by
  unfold DecA.pushInner Dec.pushInner
  rcases bufPush_sim b h with ⟨a', h1, h2, h3, h4⟩ | ⟨h1, h2⟩
  · rw [h1, show (absD d).buf.push b = _ from h4]; exact ⟨h2, rfl, h3, rfl⟩
  · rw [h1, show (absD d).buf.push b = _ from h2]
    exact ⟨WF_clear _, rfl, rfl, by rw [absD_reset]; rfl, rfl⟩

theorem pushZeros_sim (n : Nat) : ∀ (d : DecA), WF d.buf →
    RelP d.crc d.buf.N (d.pushZeros n) (Dec.ofOpt ((absD d).pushZeros n)) := by
  induction n with
  | zero => intro d h; exact RelP.refl h
  | succ n ih =>
    intro d h
    rw [Dec.pushZeros_succ]; unfold DecA.pushZeros
    exact (pushInner_sim d 0 h).bind ih

theorem flush_sim (d : DecA) (h : WF d.buf) :
    RelP d.crc d.buf.N d.flush (Dec.ofOpt (absD d).flush) := by
  rw [Dec.flush_pushRes]; unfold DecA.flush
  exact (pushZeros_sim d.zc d h).bind (k := fun d' => .ok { d' with zc := 0 })
    (ka := fun d' => .ok { d' with zc := 0 }) (fun _ h1 => ⟨h1, rfl, rfl, rfl⟩)

theorem pushData_sim (d : DecA) (b : UInt8) (h : WF d.buf) :
    RelP d.crc d.buf.N (d.pushData b) ((absD d).pushData b) := by
  rw [Dec.pushData_pushRes]
  exact rel_ite _
    (rel_ite _ (rel_ite _ rfl ⟨h, rfl, rfl, rfl⟩) (pushInner_sim d b h))
    ((flush_sim d h).bind (k := (·.pushInner b)) (ka := fun d' => Dec.ofOpt (d'.pushInner b))
      (pushInner_sim · b))

theorem pushRep_sim (x : UInt8) (n : Nat) : ∀ (d : DecA), WF d.buf →
    RelP d.crc d.buf.N (d.pushRep x n) ((absD d).pushRep x n) := by
  induction n with
  | zero => intro d h; exact RelP.refl h
  | succ n ih =>
    intro d h
    unfold DecA.pushRep Dec.pushRep
    exact (pushData_sim d x h).bind ih

theorem pushList_sim (l : List UInt8) : ∀ (d : DecA), WF d.buf →
    RelP d.crc d.buf.N (d.pushList l) ((absD d).pushList l) := by
  induction l with
  | nil => intro d h; exact RelP.refl h
  | cons x l ih =>
    intro d h
    unfold DecA.pushList Dec.pushList
    exact (pushData_sim d x h).bind ih

/-- same reported value, abstraction of the new state, invariant, unchanged `N` -/
def RelK {α : Type} (n : Nat) (x : DecA × α) (y : Dec × α) : Prop :=
  x.2 = y.2 ∧ absD x.1 = y.1 ∧ WF x.1.buf ∧ x.1.buf.N = n

theorem RelK.ctl {α : Type} {d : DecA} (h : WF d.buf) (raw : Nat) (crc : UInt16) (st : DState)
    (zc : Nat) (r : α) :
    RelK d.buf.N (⟨raw, crc, st, zc, d.buf⟩, r) (⟨raw, crc, st, zc, (absD d).buf⟩, r) :=
  ⟨rfl, rfl, h, rfl⟩

theorem RelK.reset {α : Type} (d : DecA) (r : α) :
    RelK d.buf.N (d.reset.1, r) ((absD d).reset.1, r) :=
  ⟨rfl, absD_reset d, WF_reset d, rfl⟩

theorem afterPush_sim {d0 : DecA} {r : DecA.PushResA} {ra : Dec.PushRes}
    {k : DecA → DecA × Res} {ka : Dec → Dec × Res} (h0 : WF d0.buf)
    (hr : RelP d0.crc d0.buf.N r ra)
    (hk : ∀ d', WF d'.buf → d'.crc = d0.crc → d'.buf.N = d0.buf.N →
      RelK d0.buf.N (k d') (ka (absD d'))) :
    RelK d0.buf.N (DecA.afterPush d0 r k) (Dec.afterPush (absD d0) ra ka) := by
  cases r with
  | ok d' => obtain ⟨h1, h2, h3, rfl⟩ := hr; exact hk d' h1 h2 h3
  | oom d' =>
    obtain ⟨h1, h2, h3, h4, rfl⟩ := hr
    exact ⟨rfl, h4.trans (reset_congr h2 (congrArg some h3)), h1, h3⟩
  | panic s => cases hr; exact ⟨rfl, rfl, h0, rfl⟩

theorem pushLook_sim (d : DecA) (disc init : Nat) (b : UInt8) (h : WF d.buf) :
    RelK d.buf.N (d.pushLook disc init b) ((absD d).pushLook disc init b) :=
  have l {α : Type} := @RelK.ctl α d h
  rel_ite _
    (rel_ite _ (l ..) (rel_ite _ (rel_ite _ (l ..) (l ..)) (l ..)))
    (rel_ite _ (l ..) (l ..))

theorem pushEnd_sim (d : DecA) (q : Quad) (h : WF d.buf) :
    RelK d.buf.N (d.pushEnd q) ((absD d).pushEnd q) := by
  refine rel_ite _ (RelK.reset { d with crc := crcInit } _) (rel_ite _ (.ctl h ..) ?_)
  have hk := afterPush_sim (d0 := { d with crc := crcInit, zc := d.zc - q.b.toNat })
    (k := fun d => ({ d with st := .done }, .ready)) (ka := fun d => ({ d with st := .done }, .ready))
    h (flush_sim _ h) (fun _ h1 _ h3 => ⟨rfl, rfl, h1, h3⟩)
  -- `Dec.pushEnd` has a `match` where `afterPush` would stand (remark at `Dec.ofOpt`, DecData.lean)
  dsimp only [absD] at hk ⊢
  generalize Dec.flush _ = o at hk ⊢
  cases o <;> exact hk

theorem pushEscComplete_sim (d : DecA) (q : Quad) (h : WF d.buf) :
    RelK d.buf.N (d.pushEscComplete q) ((absD d).pushEscComplete q) :=
  rel_ite _
    (afterPush_sim (d0 := { d with crc := _ }) h (pushList_sim _ _ h)
      (fun _ h1 _ h3 => ⟨rfl, rfl, h1, h3⟩))
    (rel_ite _
      (rel_ite _ (.ctl h ..) ⟨rfl, by simp only [absD, absB_clear], WF_clear _, rfl⟩)
      (rel_ite _ (pushEnd_sim d q h) (rel_ite _
        (afterPush_sim (d0 := { d with crc := _ }) h (pushRep_sim _ _ _ h)
          (fun _ h1 _ h3 => ⟨rfl, rfl, h1, h3⟩))
        (RelK.reset d _))))

theorem pushByte_sim (d : DecA) (b : UInt8) (h : WF d.buf) :
    RelK d.buf.N (d.pushByte b) ((absD d).pushByte b) := by
  rcases d with ⟨raw, crc, st, zc, buf⟩
  cases st with
  | look disc init => exact pushLook_sim ⟨raw + 1, crc, .look disc init, zc, buf⟩ disc init b h
  | normal =>
    exact rel_ite _ (.ctl h ..)
      (afterPush_sim (d0 := ⟨raw + 1, crcByte crc b, .normal, zc, buf⟩) h (pushData_sim _ _ h)
        (fun _ h1 _ h3 => ⟨rfl, rfl, h1, h3⟩))
  | escChars n =>
    exact rel_ite _
      (afterPush_sim (d0 := ⟨raw + 1, crcByte crc b, .escChars n, zc, buf⟩) h
        (pushRep_sim _ _ _ h) (fun d' h1 h2 h3 =>
          afterPush_sim (d0 := ⟨raw + 1, crcByte crc b, .escChars n, zc, buf⟩) h
            (h2 ▸ h3 ▸ pushData_sim d' b h1) (fun _ g1 _ g3 => ⟨rfl, rfl, g1, g3⟩)))
      (rel_ite _ (.ctl h ..) (rel_ite _ (.ctl h ..) (.ctl h ..)))
  | escPayload step q =>
    unfold DecA.pushByte Dec.pushByte
    dsimp only [absD]
    cases q.set step b with
    | none => exact .ctl h ..
    | some q' =>
      exact rel_ite _ (.ctl h ..)
        (pushEscComplete_sim ⟨raw + 1, crc, .escPayload step q, zc, buf⟩ q' h)
  | done =>
    have := pushLook_sim ⟨0 + 1, crc, .look 0 0, 0, buf.clear⟩ 0 0 b (WF_clear buf)
    simp only [absD, absB_clear] at this
    exact this

theorem borrowBuf_sim (d : DecA) (h : WF d.buf) : d.borrowBuf = (absD d).borrowBuf := by
  unfold DecA.borrowBuf Dec.borrowBuf
  have h1 : (absD d).isDone = d.isDone := rfl
  have h2 : (absD d).buf.data = abs d.buf := by simp [absD, absB, Buf.data]
  rw [deref_of_WF h, h1, h2]
  dsimp only
  rw [List.take_length]

theorem push_sim (d : DecA) (b : UInt8) (h : WF d.buf) :
    RelK d.buf.N (d.push b) ((absD d).push b) := by
  obtain ⟨h4, h3, h1, h2⟩ := pushByte_sim d b h
  unfold DecA.push Dec.push
  rw [show (absD d).pushByte b = (absD (d.pushByte b).1, (d.pushByte b).2) from
    (Prod.ext h3 h4).symm]
  generalize d.pushByte b = x at h1 h2
  obtain ⟨d', r⟩ := x
  cases r with
  | ready => exact ⟨borrowBuf_sim d' h1, rfl, h1, h2⟩
  | _ => exact ⟨rfl, rfl, h1, h2⟩

/-- one operation of a history; a `fromBuf stale` operation needs `stale` to fit the `ArrayBuf<N>`
    (otherwise the caller's `collect()` panics before `from_buf` is reached) -/
theorem step_sim (d : DecA) (op : Op) (h : WF d.buf)
    (hop : ∀ st, op = .fromBuf st → st.length ≤ d.buf.N) :
    RelK d.buf.N (d.step op) ((absD d).step op) := by
  cases op with
  | push b =>
    obtain ⟨h4, h3⟩ := push_sim d b h
    exact ⟨congrArg OpOut.out h4, h3⟩
  | fin => exact ⟨rfl, absD_reset d, WF_reset d, rfl⟩
  | reset => exact ⟨rfl, absD_reset d, WF_reset d, rfl⟩
  | new => exact ⟨rfl, absD_fresh d.buf.N, WF_clear _, N_new d.buf.N⟩
  | fromBuf stale =>
    obtain ⟨a, h1, h2, h3, _⟩ := fromIter_ok d.buf.N stale (hop stale rfl)
    simp only [DecA.step, h1]
    refine ⟨rfl, ?_, WF_clear a, h3⟩
    show absD (DecA.fromBuf a) = Dec.fresh (some d.buf.N)
    rw [absD_fromBuf, h3]

theorem run_sim (ops : List Op) : ∀ (d : DecA), WF d.buf →
    (∀ st, Op.fromBuf st ∈ ops → st.length ≤ d.buf.N) →
    RelK d.buf.N (d.run ops) ((absD d).run ops) := by
  induction ops with
  | nil => intro d h _; exact ⟨rfl, rfl, h, rfl⟩
  | cons op ops ih =>
    intro d h hst
    obtain ⟨h4, h3, h1, h2⟩ :=
      step_sim d op h (fun st e => hst st (by rw [e]; exact List.mem_cons_self))
    obtain ⟨g4, g3, g1, g2⟩ := ih (d.step op).1 h1
      (fun st hm => by rw [h2]; exact hst st (List.mem_cons_of_mem _ hm))
    rw [h3] at g3 g4
    unfold DecA.run Dec.run
    exact ⟨by
      show (d.step op).2 :: ((d.step op).1.run ops).2 = _
      rw [h4, g4], g3, g1, by rw [g2, h2]⟩

theorem pushAll_sim (s : List UInt8) : ∀ (d : DecA), WF d.buf →
    RelK d.buf.N (d.pushAll s) ((absD d).pushAll s) := by
  induction s with
  | nil => intro d h; exact ⟨rfl, rfl, h, rfl⟩
  | cons b s ih =>
    intro d h
    obtain ⟨h4, h3, h1, h2⟩ := push_sim d b h
    obtain ⟨g4, g3, g1, g2⟩ := ih (d.push b).1 h1
    rw [h3] at g3 g4
    unfold DecA.pushAll Dec.pushAll
    exact ⟨by
      show (d.push b).2 :: ((d.push b).1.pushAll s).2 = _
      rw [h4, g4], g3, g1, by rw [g2, h2]⟩

end Sml.C18
