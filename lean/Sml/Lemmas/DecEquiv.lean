import Sml.Lemmas.DecInv
/-
  Dead fields: `Dec.norm` forgets what no later operation can observe (the digest while looking for
  a start sequence, everything but the capacity in `Done`), `Dec.Equiv` is equality up to that, a
  bisimulation (`step_equiv`).  After an answer other than `Ok(None)` or `DiscardedBytes` the decoder
  is equivalent to a new one (`step_boundary_norm`).
-/
namespace Sml

open C07

namespace Dec

/-- Forget the fields no later operation can observe: in `LookingForMessageStart` the digest is
dead (it is overwritten when the start sequence completes); in `Done` everything except the
buffer capacity is dead, because the next `push_byte` / `finalize` / `reset` begins with `reset`. -/
def norm (d : Dec) : Dec :=
  match d.st with
  | .look _ _ => { d with crc := crcInit }
  | .done => { d.reset.1 with crc := crcInit }
  | _ => d

/-- equal up to dead fields -/
def Equiv (d d' : Dec) : Prop := d.norm = d'.norm

theorem Equiv.refl (d : Dec) : Equiv d d := rfl
theorem Equiv.symm {d d' : Dec} (h : Equiv d d') : Equiv d' d := Eq.symm h
theorem Equiv.trans {a b c : Dec} (h1 : Equiv a b) (h2 : Equiv b c) : Equiv a c := Eq.trans h1 h2

theorem norm_fresh (cap : Option Nat) : (fresh cap).norm = fresh cap := rfl

theorem norm_of_isReset {d : Dec} (h : IsReset d) : d.norm = fresh d.buf.cap := by
  rcases d with ⟨raw, crc, st, zc, ⟨cap, rdata⟩⟩
  obtain ⟨h1, h2, h3, h4⟩ := h
  simp only at h1 h2 h3 h4
  subst h1 h2 h3 h4
  rfl

theorem norm_of_done {d : Dec} (h : d.st = .done) : d.norm = fresh d.buf.cap := by
  rcases d with ⟨raw, crc, st, zc, ⟨cap, rdata⟩⟩
  simp only at h
  subst h
  rfl

/-- while looking for the start sequence the digest is dead: it is never read, and either kept in a
`look` state (where `norm` erases it) or overwritten by `startCrc` -/
theorem pushLook_crc (raw : Nat) (c1 c2 : UInt16) (x y zc : Nat) (buf : Buf) (b : UInt8) :
    (pushLook ⟨raw, c1, .look x y, zc, buf⟩ x y b).2 =
      (pushLook ⟨raw, c2, .look x y, zc, buf⟩ x y b).2 ∧
    (pushLook ⟨raw, c1, .look x y, zc, buf⟩ x y b).1.norm =
      (pushLook ⟨raw, c2, .look x y, zc, buf⟩ x y b).1.norm ∧
    (pushLook ⟨raw, c1, .look x y, zc, buf⟩ x y b).2 ≠ .ready := by
  rw [pushLook_eq, pushLook_eq]
  let R (p p' : Dec × Res) : Prop := p.2 = p'.2 ∧ p.1.norm = p'.1.norm ∧ p.2 ≠ .ready
  exact rel_ite R ⟨rfl, rfl, nofun⟩ (rel_ite R ⟨rfl, rfl, by split <;> nofun⟩ ⟨rfl, rfl, nofun⟩)

theorem resOut_congr {d d' : Dec} {r : Res} (h : r ≠ .ready) : resOut d r = resOut d' r := by
  cases r <;> first | rfl | exact absurd rfl h

theorem push_snd_congr {d d' : Dec} {b : UInt8} (h : (d.pushByte b).2 = (d'.pushByte b).2)
    (hr : (d.pushByte b).2 ≠ .ready) : (d.push b).2 = (d'.push b).2 := by
  rw [push_eq, push_eq, ← h]; exact resOut_congr hr

/-- two decoders that both look for the start sequence and differ in the digest only: a byte gets
the same answer and leads to states equal up to dead fields -/
theorem push_look_crc {d1 d2 : Dec} {raw : Nat} {c1 c2 : UInt16} {x y zc : Nat} {buf : Buf}
    {b : UInt8} (e1 : d1.pushByte b = pushLook ⟨raw, c1, .look x y, zc, buf⟩ x y b)
    (e2 : d2.pushByte b = pushLook ⟨raw, c2, .look x y, zc, buf⟩ x y b) :
    (d1.step (.push b)).2 = (d2.step (.push b)).2 ∧
      (d1.step (.push b)).1.norm = (d2.step (.push b)).1.norm := by
  have h := pushLook_crc raw c1 c2 x y zc buf b
  refine ⟨?_, ?_⟩
  · simp only [step]
    congr 1
    exact push_snd_congr (by rw [e1, e2]; exact h.1) (by rw [e1]; exact h.2.2)
  · simp only [step]
    rw [push_fst, push_fst, e1, e2]
    exact h.2.1

theorem step_norm (d : Dec) (op : Op) :
    (d.step op).2 = (d.norm.step op).2 ∧ (d.step op).1.norm = (d.norm.step op).1.norm := by
  rcases d with ⟨raw, crc, st, zc, buf⟩
  cases st with
  | normal => exact ⟨rfl, rfl⟩
  | escChars n => exact ⟨rfl, rfl⟩
  | escPayload step q => exact ⟨rfl, rfl⟩
  | look x y =>
    cases op with
    | fin => exact ⟨rfl, rfl⟩
    | reset => exact ⟨rfl, rfl⟩
    | new => exact ⟨rfl, rfl⟩
    | fromBuf stale => exact ⟨rfl, rfl⟩
    | push b => exact push_look_crc (raw := raw + 1) (c1 := crc) (c2 := crcInit) rfl rfl
  | done =>
    -- `push_byte` in `Done` begins with `reset`
    cases op with
    | fin => exact ⟨rfl, rfl⟩
    | reset => exact ⟨rfl, rfl⟩
    | new => exact ⟨rfl, rfl⟩
    | fromBuf stale => exact ⟨rfl, rfl⟩
    | push b =>
      exact push_look_crc (raw := 1) (c1 := crc) (c2 := crcInit) (x := 0) (y := 0) (zc := 0)
        (buf := buf.clear) rfl rfl

/-- `Equiv` is a bisimulation -/
theorem step_equiv {d d' : Dec} (h : Equiv d d') (op : Op) :
    (d.step op).2 = (d'.step op).2 ∧ Equiv (d.step op).1 (d'.step op).1 := by
  have h1 := step_norm d op
  have h2 := step_norm d' op
  unfold Equiv at h ⊢
  rw [h] at h1
  exact ⟨h1.1.trans h2.1.symm, h1.2.trans h2.2.symm⟩

theorem reset_equiv_fresh (d : Dec) : Equiv d.reset.1 (fresh d.buf.cap) :=
  norm_of_isReset (isReset_reset d)

/-- whatever a new decoder has been through, `reset` leaves it as good as new -/
theorem reset_run_equiv_fresh (cap : Option Nat) (ops : List Op) :
    Equiv ((run (fresh cap) ops).1.reset).1 (fresh cap) := by
  have := reset_equiv_fresh (run (fresh cap) ops).1
  rwa [run_cap _ (inv_fresh cap)] at this

theorem reset_equiv {d d' : Dec} (h : Equiv d d') :
    d.reset.2 = d'.reset.2 ∧ Equiv d.reset.1 d'.reset.1 :=
  ⟨OpOut.reset.inj (step_equiv h .reset).1, (step_equiv h .reset).2⟩

theorem run_equiv (ops : List Op) : ∀ {d d' : Dec}, Equiv d d' →
    (d.run ops).2 = (d'.run ops).2 ∧ Equiv (d.run ops).1 (d'.run ops).1 := by
  induction ops with
  | nil => intro d d' h; exact ⟨rfl, h⟩
  | cons op ops ih =>
    intro d d' h
    have hs := step_equiv h op
    have := ih hs.2
    rw [run_cons, run_cons]
    exact ⟨by rw [hs.1, this.1], this.2⟩

theorem pushAll_equiv (s : List UInt8) {d d' : Dec} (h : Equiv d d') :
    (d.pushAll s).2 = (d'.pushAll s).2 ∧ Equiv (d.pushAll s).1 (d'.pushAll s).1 := by
  have hr := run_equiv (s.map Op.push) h
  refine ⟨pushAll_snd_eq_of_run hr.1, ?_⟩
  rw [(pushAll_eq_run s d).1, (pushAll_eq_run s d').1]
  exact hr.2

theorem finalize_equiv {d d' : Dec} (h : Equiv d d') : d.finalize.2 = d'.finalize.2 :=
  OpOut.fin.inj (step_equiv h .fin).1

theorem equiv_fresh_of_done {d : Dec} {cap : Option Nat} (hst : d.st = .done)
    (hcap : d.buf.cap = cap) : Equiv d (fresh cap) := by
  show d.norm = (fresh cap).norm
  rw [norm_of_done hst, hcap, norm_fresh]

theorem step_boundary_norm {d : Dec} (hinv : Inv d) (op : Op)
    (h1 : (d.step op).2 ≠ .out .none) (h2 : ∀ n, (d.step op).2 ≠ .out (.err (.discarded n)))
    (h3 : ∀ s, (d.step op).2 ≠ .out (.panic s)) : (d.step op).1.norm = fresh d.buf.cap := by
  rw [← step_cap hinv op]
  cases op with
  | fin => exact norm_of_isReset (isReset_reset d)
  | reset => exact norm_of_isReset (isReset_reset d)
  | new => rfl
  | fromBuf stale => rfl
  | push b =>
    simp only [step, push_eq] at h1 h2 h3 ⊢
    rcases hp : d.pushByte b with ⟨d', r⟩
    rw [hp] at h1 h2 h3
    cases r with
    | more => exact absurd rfl h1
    | ready => exact norm_of_done (pushByte_ready hp)
    | panic s => exact absurd rfl (h3 s)
    | err e => exact norm_of_isReset (pushByte_err hp fun n hn => h2 n (by rw [hn]; rfl))

end Dec

end Sml
