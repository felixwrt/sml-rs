import Sml.Lemmas.StartFree
import Sml.Lemmas.DecInv
/-
  The invariant of the push decoder that C02 (soundness), C17 (tiling, also anchored to the bytes)
  and the report bounds of C05 rest on.  It speaks of one object, the *window* `w`: the bytes
  consumed since the last boundary, i.e. the tile under construction.

    * `look disc init`  : `raw = |w| = disc + init`, nothing buffered, the matcher state tracks `w`
                          (`Resync.Tracks`) and no start sequence has been completed in `w`;
    * in a transmission : `w = START ++ stuff dd ++ (pending escape)`, `raw = |w|`, the digest
                          covers `START ++ stuff dd` plus the `0x1b` bytes of the pending escape,
                          and the encoder's run counter after the logical payload `dd` is 0;
    * `done`            : `w = []`: the boundary is the current position.

  `wpost_pushByte` is the step lemma: what each answer of `_push_byte` says about the window
  (`WPost`).  Positions are not part of the invariant: with `b` the boundary and `i` the number of
  bytes consumed, `b + |w| = i`, and the bytes consumed are `pre ++ w`; the walker of
  `Spec/Tiling.lean` follows the window (`tileStep_of_wrep`).

  In front (`namespace C17`): "no start sequence completed" in the form the matcher keeps (`NoHit`,
  which is `C08.StartFree`: `noHit_iff`), and `startFree_append_partial`.  At the end ("Silent
  runs"): input that completes no start sequence is consumed silently from any state
  (`winv_startFree`), after a silent run the window is everything consumed (`winv_silent`), and the
  byte that completes the first start sequence is answered by an equation (`push_start`); C08, C10
  and C16 start from these.
-/
namespace Sml

namespace Dec

/-- the re-alignment test of `pushEscComplete`: the first `k` bytes of the escape payload are
`0x1b` and what `shift k` keeps of it is the rest, beginning with `0x1a` -/
theorem quad_realign {q : Quad} {k : Nat} (hk0 : 0 < k) (hk4 : k < 4)
    (hall : (q.toList.take k).all (· = 0x1b) = true) (hget : q.get k = 0x1a) :
    q.toList = List.replicate k 0x1b ++ (q.shift k).toList.take (4 - k) ∧ (q.shift k).a = 0x1a := by
  rcases q with ⟨qa, qb, qc, qd⟩
  have hk3 : k = 1 ∨ k = 2 ∨ k = 3 := by omega
  rcases hk3 with rfl | rfl | rfl <;> simp [Quad.toList, Quad.get] at hall hget
  · obtain rfl := hall; obtain rfl := hget; exact ⟨rfl, rfl⟩
  · obtain ⟨rfl, rfl⟩ := hall; obtain rfl := hget; exact ⟨rfl, rfl⟩
  · obtain ⟨rfl, rfl, rfl⟩ := hall; obtain rfl := hget; exact ⟨rfl, rfl⟩

end Dec

namespace C17

open C08 (StartFree)

/-- no prefix of `t` ends with the start sequence, i.e. the start sequence does not occur in `t`.
This is `C08.StartFree t` (`noHit_iff`), in the form the matcher maintains byte by byte. -/
def NoHit (t : List UInt8) : Prop := ∀ j, j ≤ t.length → ¬ (START <:+ t.take j)

theorem noHit_nil : NoHit [] := by
  intro j _ h
  have := h.length_le
  simp [START] at this

theorem noHit_snoc {t : List UInt8} {x : UInt8} (h : NoHit t) (hx : ¬ START <:+ t ++ [x]) :
    NoHit (t ++ [x]) := by
  intro j hj
  rcases Nat.lt_or_ge t.length j with hlt | hge
  · have : j = (t ++ [x]).length := by simp at hj ⊢; omega
    rw [this, List.take_length]
    exact hx
  · rw [List.take_append_of_le_length hge]
    exact h j hge

theorem hit_iff_suffix {t : List UInt8} {k : Nat} (h : Resync.Tracks t.reverse k) (x : UInt8) :
    Resync.delta k x = 8 ↔ START <:+ t ++ [x] := by
  rw [Resync.hit_iff h, Resync.pre8, ← List.reverse_prefix]
  simp

theorem noHit_iff (t : List UInt8) : NoHit t ↔ StartFree t := by
  rw [C08.startFree_iff]
  constructor
  · rintro h ⟨a, b, hab⟩
    refine h (a ++ START).length (by rw [← hab]; simp) ⟨a, ?_⟩
    rw [← hab, List.take_left' rfl]
  · intro h j _ hs
    exact h (hs.isInfix.trans (List.take_prefix j t).isInfix)

/-- the bytes before a start sequence that the last byte completes -/
theorem startFree_of_noHit {t pre : List UInt8} {x : UInt8} (h : NoHit t)
    (hp : pre ++ START = t ++ [x]) : StartFree pre := by
  rw [C08.startFree_iff]
  intro hc
  have h7 : pre ++ START.take 7 = t := by
    have := congrArg List.dropLast hp
    rwa [List.dropLast_concat, show START = START.take 7 ++ [0x01] from rfl, ← List.append_assoc,
      List.dropLast_concat] at this
  exact (C08.startFree_iff t).1 ((noHit_iff t).1 h) (h7 ▸ hc.trans (List.prefix_append _ _).isInfix)

/-- start-free noise followed by a proper prefix of the start sequence is start-free noise: a start
sequence that begins inside `g` and ends inside the partial one is one in `g ++ START` too -/
theorem startFree_append_partial (g : List UInt8) (hg : StartFree g) (k : Nat) (hk : k < 8) :
    StartFree (g ++ START.take k) := by
  rw [C08.startFree_iff]
  rintro ⟨a, b, hab⟩
  have hT : (START.take k).length < 8 := by rw [List.length_take]; omega
  rw [List.append_assoc] at hab
  rcases List.append_eq_append_iff.1 hab with ⟨c, hg', hc⟩ | ⟨c, _, hc⟩ <;>
    have hl := congrArg List.length hc <;>
    simp only [List.length_append, C08.START_length] at hl
  · apply hg a.length (by rw [hg', List.length_append]; omega)
    rw [hg', List.append_assoc, List.drop_left]
    exact ⟨b ++ START.drop k,
      by rw [← List.append_assoc, hc, List.append_assoc, List.take_append_drop]⟩
  · omega

end C17

open Spec (stuff stuffFrom ctr padLen frame framePrefix)

namespace Dec

/-- `w = START ++ stuff dd ++ tail`, `raw = |w|`, the digest covers `START ++ stuff dd ++ ctail`
(written with `Spec.START`, which is `START` by `rfl`, because the frame lemmas are) -/
def InFr (w dd : List UInt8) (raw : Nat) (crc : UInt16) (tail ctail : List UInt8) : Prop :=
  w = Spec.START ++ stuff dd ++ tail ∧ raw = w.length ∧
    crc = crcUpdate startCrc (stuff dd ++ ctail)

section
variable {w dd : List UInt8} {raw : Nat} {crc : UInt16} {tail ctail : List UInt8}

theorem InFr.start (h : InFr w dd raw crc tail ctail) : START <+: w :=
  ⟨stuff dd ++ tail, by rw [h.1, List.append_assoc]; rfl⟩

theorem InFr.len (h : InFr w dd raw crc tail ctail) :
    raw = 8 + (stuff dd).length + tail.length := by
  rw [h.2.1, h.1]; simp [Spec.length_START]; omega

theorem InFr.snoc (h : InFr w dd raw crc tail ctail) (x : UInt8) :
    InFr (w ++ [x]) dd (raw + 1) (crcByte crc x) (tail ++ [x]) (ctail ++ [x]) := by
  obtain ⟨h1, h2, h3⟩ := h
  refine ⟨by rw [h1]; simp, by rw [h2]; simp, ?_⟩
  rw [h3, show crcByte _ x = crcUpdate _ [x] from rfl, ← crcUpdate_append]; simp

theorem InFr.snoc' (h : InFr w dd raw crc tail ctail) (x : UInt8) :
    InFr (w ++ [x]) dd (raw + 1) crc (tail ++ [x]) ctail := by
  obtain ⟨h1, h2, h3⟩ := h
  exact ⟨by rw [h1]; simp, by rw [h2]; simp, h3⟩

theorem InFr.feed (h : InFr w dd raw crc tail ctail) (l : List UInt8) :
    InFr w dd raw (crcUpdate crc l) tail (ctail ++ l) := by
  obtain ⟨h1, h2, h3⟩ := h
  refine ⟨h1, h2, ?_⟩
  rw [h3, ← crcUpdate_append]; simp

theorem InFr.move {dd' t1 t2 c2 : List UInt8} (hs : stuff dd' = stuff dd ++ t1)
    (h : InFr w dd raw crc (t1 ++ t2) (t1 ++ c2)) : InFr w dd' raw crc t2 c2 := by
  obtain ⟨h1, h2, h3⟩ := h
  exact ⟨by rw [h1, hs]; simp, h2, by rw [h3, hs]; simp⟩

end

/-- `WInv` with the state as a separate argument, so that it is a `match` on the state: with
`hst : d.st = …`, `show WI w d d.st; rw [hst]` gives the clause of that state -/
def WI (w : List UInt8) (d : Dec) : DState → Prop
  | .look disc init =>
    d.buf.rdata = [] ∧ d.zc = 0 ∧ d.raw = w.length ∧ w.length = disc + init ∧
      Resync.Tracks w.reverse init ∧ C17.NoHit w
  | .normal => InFr w d.dd d.raw d.crc [] [] ∧ ctr 0 d.dd = 0
  | .escChars n =>
    1 ≤ n ∧ n ≤ 3 ∧
      InFr w d.dd d.raw d.crc (List.replicate n 0x1b) (List.replicate n 0x1b) ∧ ctr 0 d.dd = 0
  | .escPayload step q =>
    step ≤ 3 ∧
      InFr w d.dd d.raw d.crc (List.replicate 4 0x1b ++ q.toList.take step)
        (List.replicate 4 0x1b) ∧
      -- after a re-alignment (`k` escape bytes became payload) the run counter is `k`, not 0; but
      -- then the escape payload begins with `0x1a`, and the end sequence does not ask for it
      (ctr 0 d.dd = 0 ∨ (q.a = 0x1a ∧ 1 ≤ step))
  | .done => w = []

def WInv (w : List UInt8) (d : Dec) : Prop := WI w d d.st

/-- what the answer `o` to the last byte of the window `w` says -/
def WRep (w : List UInt8) : Out → Prop
  | .none => True
  | .msg m => w = frame m
  | .err (.discarded n) => ∃ tile, w = tile ++ START ∧ tile.length = n ∧ 0 < n ∧
      (C08.StartFree tile ∨ START <+: tile)
  | .err _ => START <+: w
  | .panic _ => False

/-- the window after the answer: unchanged, `START` after a discarded-bytes report, empty
otherwise -/
def winNext (w : List UInt8) : Out → List UInt8
  | .none => w
  | .err (.discarded _) => START
  | _ => []

/-- what `_push_byte` establishes; `w` = the window including the byte just pushed -/
def WPost (w : List UInt8) (p : Dec × Res) : Prop :=
  WRep w (resOut p.1 p.2) ∧ WInv (winNext w (resOut p.1 p.2)) p.1

theorem winv_of_isReset {d : Dec} (h : IsReset d) : WInv [] d := by
  obtain ⟨h1, h2, h3, h4⟩ := h
  show WI [] d d.st
  rw [h1]
  exact ⟨h4, h3, h2, rfl, Resync.tracks_nil, C17.noHit_nil⟩

theorem winv_reset (d : Dec) : WInv [] (d.reset).1 := winv_of_isReset (isReset_reset d)

theorem winv_fresh (cap : Option Nat) : WInv [] (fresh cap) := winv_of_isReset ⟨rfl, rfl, rfl, rfl⟩

theorem wpost_oom {w : List UInt8} (hw : START <+: w) (d : Dec) :
    WPost w ((d.reset).1, .err .oom) := ⟨hw, winv_reset d⟩

theorem winv_afterStart {zc : Nat} {buf : Buf}
    (hb : buf.rdata = []) (hz : zc = 0) :
    WInv START { raw := 8, crc := startCrc, st := .normal, zc := zc, buf := buf } := by
  have hdd : Dec.dd { raw := 8, crc := startCrc, st := .normal, zc := zc, buf := buf } = [] := by
    simp [dd, Buf.data, hb, hz]
  refine ⟨⟨?_, rfl, ?_⟩, ?_⟩
  · rw [hdd]; rfl
  · rw [hdd]; simp
  · rw [hdd]; rfl

theorem wpost_look {w : List UInt8} {d : Dec} {disc init : Nat} (hst : d.st = .look disc init)
    (h : WInv w d) (x : UInt8) : WPost (w ++ [x]) (d.pushByte x) := by
  simp only [WInv, hst, WI] at h
  obtain ⟨hb, hz, hraw, hlen, htr, hno⟩ := h
  by_cases h8 : Resync.delta init x = 8
  · rw [Resync.pushByte_look_hit hst h8]
    have hsuf : START <:+ w ++ [x] := (C17.hit_iff_suffix htr x).1 h8
    have h7 := (Resync.delta_eq_8.1 h8).1
    have hn := winv_afterStart hb hz
    split
    · obtain ⟨pre, hp⟩ := hsuf
      have hpl : pre.length = disc := by
        have := congrArg List.length hp; simp [START] at this; omega
      exact ⟨⟨pre, hp.symm, hpl, by omega, Or.inl (C17.startFree_of_noHit hno hp)⟩, hn⟩
    · have hl : (w ++ [x]).length = START.length := by simp [START]; omega
      refine ⟨trivial, ?_⟩
      show WInv (w ++ [x]) _
      rw [← List.IsSuffix.eq_of_length hsuf hl.symm]
      exact hn
  · rw [Resync.pushByte_look_more hst htr.le h8]
    have hd := (Resync.delta_le init x).1
    have hl : (w ++ [x]).length = disc + init + 1 - Resync.delta init x + Resync.delta init x := by
      rw [Nat.sub_add_cancel (by omega), List.length_append, hlen]; rfl
    refine ⟨trivial, show WInv (w ++ [x]) _ from ?_⟩
    refine ⟨hb, hz, by rw [List.length_append, ← hraw]; rfl, hl, ?_, ?_⟩
    · rw [List.reverse_append]; exact Resync.tracks_step htr x h8
    · exact C17.noHit_snoc hno (fun hc => h8 ((C17.hit_iff_suffix htr x).2 hc))

theorem wpost_normal {w : List UInt8} {d : Dec} (hst : d.st = .normal)
    (h : WInv w d) (x : UInt8) : WPost (w ++ [x]) (d.pushByte x) := by
  rw [pushByte_normal hst]
  simp only [WInv, hst, WI] at h
  obtain ⟨hf, hctr⟩ := h
  have hw : START <+: w ++ [x] := hf.start.trans (List.prefix_append _ _)
  dsimp only
  split
  · next hx =>
    subst hx
    exact ⟨trivial, by omega, by omega, hf.snoc 0x1b, hctr⟩
  · next hx =>
    apply afterPush_pushList_cases
    · intro d' hp
      obtain ⟨p1, p2, p3, p4⟩ := hp
      obtain ⟨s1, s2⟩ := Spec.stuff_snoc_of_ne hx d.dd
      refine ⟨trivial, ?_⟩
      show WI (w ++ [x]) d' d'.st
      rw [p3.trans hst]
      show InFr (w ++ [x]) d'.dd d'.raw d'.crc [] [] ∧ ctr 0 d'.dd = 0
      rw [p1, p2, p4]
      exact ⟨InFr.move (t2 := []) (c2 := []) s1 (by simpa using hf.snoc x), s2⟩
    · exact wpost_oom hw _

theorem wpost_escChars {w : List UInt8} {d : Dec} {n : Nat} (hst : d.st = .escChars n)
    (h : WInv w d) (x : UInt8) : WPost (w ++ [x]) (d.pushByte x) := by
  rw [pushByte_escChars hst]
  simp only [WInv, hst, WI] at h
  obtain ⟨h1, h3, hf, hctr⟩ := h
  have hw : START <+: w ++ [x] := hf.start.trans (List.prefix_append _ _)
  dsimp only
  split
  · next hx =>
    apply afterPush_pushList_cases
    · intro d' hp
      obtain ⟨p1, p2, _, p4⟩ := hp
      obtain ⟨s1, s2⟩ := Spec.stuff_run_ne hx hctr h3
      refine ⟨trivial, ?_⟩
      show InFr (w ++ [x]) d'.dd d'.raw d'.crc [] [] ∧ ctr 0 d'.dd = 0
      rw [p1, p2, p4, ← List.append_assoc]
      exact ⟨InFr.move (t2 := []) (c2 := []) (by rwa [List.append_assoc] at s1)
        (by simpa using hf.snoc x), s2⟩
    · exact wpost_oom hw _
  · next hx =>
    have hx : x = 0x1b := by simpa using hx
    subst hx
    have hs := hf.snoc 0x1b
    rw [← List.replicate_succ'] at hs
    split
    · next h3' =>
      subst h3'
      have hs' : InFr (w ++ [0x1b]) d.dd (d.raw + 1) (crcByte d.crc 0x1b)
          (List.replicate 4 0x1b ++ Quad.zero.toList.take 0) (List.replicate 4 0x1b) := by
        simpa using hs
      exact ⟨trivial, by omega, hs', Or.inl hctr⟩
    · rw [if_neg (by omega)]
      exact ⟨trivial, by omega, by omega, hs, hctr⟩

/-- the end sequence `1a pad crc crc` -/
theorem wpost_pushEnd {w : List UInt8} {d : Dec} {q : Quad}
    (hf : InFr w d.dd d.raw d.crc (List.replicate 4 0x1b ++ q.toList) (List.replicate 4 0x1b))
    (ha : q.a = 0x1a) : WPost w (pushEnd d q) := by
  unfold pushEnd
  dsimp only
  split
  · exact ⟨hf.start, winv_reset _⟩
  · next hc =>
    simp only [Bool.or_eq_true, not_or, decide_eq_true_eq, bne_iff_ne, ne_eq, Decidable.not_not,
      Nat.not_lt] at hc
    -- the tests of `Dec.pushEnd`, in the order of its `||` chain: checksum, alignment, pad count
    -- at most 3, minimal length, pad count within the withheld zeros
    obtain ⟨⟨⟨⟨hcrc, hal⟩, hp3⟩, _⟩, hbp⟩ := hc
    have hp3 : q.b.toNat ≤ 3 := UInt8.le_iff_toNat_le.1 (UInt8.not_lt.1 hp3)
    rw [if_neg (by omega)]
    split
    · exact wpost_oom hf.start _
    · next d3 hfl =>
      have f5 := flush_data hfl
      have f5 : d3.buf.data = d.buf.data ++ List.replicate (d.zc - q.b.toNat) 0 := f5
      have c2 := hf.len
      obtain ⟨c1, _, c3⟩ := hf
      have hdd : d.dd = d3.buf.data ++ List.replicate q.b.toNat 0 := by
        rw [f5, List.append_assoc, List.replicate_append_replicate]
        have : d.zc - q.b.toNat + q.b.toNat = d.zc := by omega
        rw [this]; rfl
      have hs : stuff d.dd = stuff d3.buf.data ++ List.replicate q.b.toNat 0 := by
        rw [hdd, Spec.stuff_zeros]
      -- the end-sequence check passed, so `raw % 4 = 0` (`hal`), and `raw` is the length of
      -- `START ++ stuff data ++ padding ++ end sequence` (`c2`): the pad count is the specified one
      have hpad : padLen (Spec.START ++ stuff d3.buf.data).length = q.b.toNat := by
        simp only [List.length_append, Spec.length_START, Spec.padLen]
        simp only [hs, List.length_append, List.length_replicate, Quad.toList, List.length_cons,
          List.length_nil] at c2
        omega
      have hq : q.toList = [0x1a, q.b, q.c, q.d] := by simp [Quad.toList, ha]
      have hcrc' : le16 (crc16 (framePrefix d3.buf.data)) = [q.c, q.d] := by
        rw [← le16_ofLe16 q.c q.d, hcrc, Spec.crc_framePrefix, hpad, UInt8.ofNat_toNat, c3,
          ← crcUpdate_append, ← crcUpdate_append, ← crcUpdate_append, hs, ha]
        simp
      refine ⟨?_, rfl⟩
      show w = frame d3.buf.data
      rw [frame_eq_parts, hcrc', hpad, UInt8.ofNat_toNat, c1, hs, hq]
      simp

theorem wpost_escComplete {w : List UInt8} {d : Dec} {q : Quad}
    (hf : InFr w d.dd d.raw d.crc (List.replicate 4 0x1b ++ q.toList) (List.replicate 4 0x1b))
    (hctr : ctr 0 d.dd = 0 ∨ q.a = 0x1a) : WPost w (pushEscComplete d q) := by
  unfold pushEscComplete
  dsimp only
  by_cases hq : q = ⟨0x1b, 0x1b, 0x1b, 0x1b⟩
  · rw [if_pos hq]
    subst hq
    have hctr : ctr 0 d.dd = 0 := hctr.resolve_right (by decide)
    apply afterPush_pushList_cases
    · intro d' hp
      obtain ⟨p1, p2, _, p4⟩ := hp
      obtain ⟨s1, s2⟩ := Spec.stuff_four hctr
      refine ⟨trivial, ?_⟩
      show InFr w d'.dd d'.raw d'.crc [] [] ∧ ctr 0 d'.dd = 0
      rw [p1, p2, p4]
      refine ⟨InFr.move (t2 := []) (c2 := []) s1 ?_, s2⟩
      exact hf.feed (List.replicate 4 0x1b)
    · exact wpost_oom hf.start _
  · rw [if_neg hq]
    by_cases hq1 : q = ⟨0x01, 0x01, 0x01, 0x01⟩
    · rw [if_pos hq1]
      subst hq1
      have c2 := hf.len
      simp only [Quad.toList, List.length_append, List.length_replicate, List.length_cons,
        List.length_nil] at c2
      rw [if_neg (by omega)]
      exact ⟨⟨Spec.START ++ stuff d.dd, by rw [hf.1]; rfl,
        by simp [Spec.length_START]; omega,
        by omega, Or.inr ⟨stuff d.dd, rfl⟩⟩, winv_afterStart rfl rfl⟩
    · rw [if_neg hq1]
      by_cases ha : q.a = 0x1a
      · rw [if_pos ha]; exact wpost_pushEnd hf ha
      · rw [if_neg ha]
        have hctr : ctr 0 d.dd = 0 := hctr.resolve_right ha
        split
        · next hk =>
          generalize hk' : (4 - d.raw % 4) % 4 = k at hk ⊢
          obtain ⟨hk0, hall, hget⟩ := hk
          have hk4 : k < 4 := by omega
          clear hk'
          rw [pushRep_eq_pushList]
          apply afterPush_pushList_cases
          · intro d' hp
            obtain ⟨p1, p2, _, p4⟩ := hp
            have s1 := Spec.stuff_few hctr (show k ≤ 3 by omega)
            refine ⟨trivial, ?_⟩
            show 4 - k ≤ 3 ∧
              InFr w d'.dd d'.raw d'.crc
                (List.replicate 4 0x1b ++ (q.shift k).toList.take (4 - k)) (List.replicate 4 0x1b) ∧
              (ctr 0 d'.dd = 0 ∨ ((q.shift k).a = 0x1a ∧ 1 ≤ 4 - k))
            rw [p1, p2, p4]
            obtain ⟨hq, ha⟩ := quad_realign hk0 hk4 hall hget
            have htk : q.toList.take k = List.replicate k 0x1b := by
              rw [hq]; exact List.take_left' List.length_replicate
            have hf' := hf.feed (q.toList.take k)
            rw [htk] at hf'
            refine ⟨by omega, InFr.move s1 ?_, Or.inr ⟨ha, by omega⟩⟩
            -- the `k` payload bytes and the four escape bytes are all `0x1b`: either grouping
            rw [htk]
            rw [hq] at hf'
            simpa only [← List.append_assoc, List.replicate_append_replicate, Nat.add_comm k 4]
              using hf'
          · exact wpost_oom hf.start _
        · exact ⟨hf.start, winv_reset _⟩

theorem wpost_escPayload {w : List UInt8} {d : Dec} {step : Nat} {q : Quad}
    (hst : d.st = .escPayload step q) (h : WInv w d) (x : UInt8) :
    WPost (w ++ [x]) (d.pushByte x) := by
  rw [pushByte_escPayload hst]
  simp only [WInv, hst, WI] at h
  obtain ⟨h3, hf, hctr⟩ := h
  obtain ⟨q', hq', htake, hqa⟩ := quad_set_take h3 q x
  simp only [hq']
  have hs := hf.snoc' x
  rw [List.append_assoc, ← htake] at hs
  split
  · next hlt =>
    refine ⟨trivial, by omega, hs, ?_⟩
    rcases hctr with h | ⟨h, h1⟩
    · exact Or.inl h
    · exact Or.inr ⟨(hqa h1).trans h, by omega⟩
  · next hlt =>
    have h3' : step = 3 := by omega
    subst h3'
    have hfull : q'.toList.take (3 + 1) = q'.toList := by simp [Quad.toList]
    rw [hfull] at hs
    apply wpost_escComplete hs
    rcases hctr with h | ⟨h, h1⟩
    · exact Or.inl h
    · exact Or.inr ((hqa h1).trans h)

theorem wpost_pushByte {w : List UInt8} {d : Dec} (h : WInv w d) (x : UInt8) :
    WPost (w ++ [x]) (d.pushByte x) := by
  cases hst : d.st with
  | look disc init => exact wpost_look hst h x
  | normal => exact wpost_normal hst h x
  | escChars n => exact wpost_escChars hst h x
  | escPayload step q => exact wpost_escPayload hst h x
  | done =>
    rw [pushByte_done hst]
    have hw : w = [] := by simpa [WInv, hst, WI] using h
    subst hw
    exact wpost_look (d := (d.reset).1) rfl (winv_reset d) x

/-- the three shapes of the invariant, as much as the users outside the step lemmas ask for -/
theorem WInv.cases {w : List UInt8} {d : Dec} (h : WInv w d) :
    (∃ disc init, d.st = .look disc init ∧ d.raw = w.length ∧ w.length = disc + init ∧
        C17.NoHit w) ∨
      (d.st = .done ∧ w = []) ∨
      ((∀ a b, d.st ≠ .look a b) ∧ d.st ≠ .done ∧ START <+: w ∧ d.raw = w.length) := by
  unfold WInv at h
  cases hst : d.st with
  | look disc init => rw [hst] at h; exact .inl ⟨_, _, rfl, h.2.2.1, h.2.2.2.1, h.2.2.2.2.2⟩
  | done => rw [hst] at h; exact .inr (.inl ⟨rfl, h⟩)
  | normal => rw [hst] at h; exact .inr (.inr ⟨nofun, nofun, h.1.start, h.1.2.1⟩)
  | escChars n => rw [hst] at h; exact .inr (.inr ⟨nofun, nofun, h.2.2.1.start, h.2.2.1.2.1⟩)
  | escPayload step q => rw [hst] at h; exact .inr (.inr ⟨nofun, nofun, h.2.1.start, h.2.1.2.1⟩)

theorem WInv.raw {w : List UInt8} {d : Dec} (h : WInv w d) (hd : d.st ≠ .done) :
    d.raw = w.length := by
  rcases h.cases with ⟨_, _, _, h, _⟩ | ⟨h, _⟩ | ⟨_, _, _, h⟩
  · exact h
  · exact absurd h hd
  · exact h

theorem WInv.reset_count {w : List UInt8} {d : Dec} (h : WInv w d) : (d.reset).2 = w.length := by
  by_cases hd : d.st = .done
  · have : w = [] := by simpa [WInv, hd, WI] using h
    simp [reset, hd, this]
  · rw [← h.raw hd]
    unfold reset
    cases hst : d.st <;> first | rfl | exact absurd hst hd

theorem WInv.finalize {w : List UInt8} {d : Dec} (h : WInv w d) :
    (d.finalize).2 = if w.length = 0 then none else some (.discarded w.length) := by
  rw [← h.reset_count]
  apply finalize_eq_reset_of
  · intro disc init hst
    rcases h.cases with ⟨_, _, hs, h1, h2, _⟩ | ⟨hs, _⟩ | ⟨hs, _⟩
    · rw [hs] at hst; cases hst; rw [h1, h2]
    · rw [hs] at hst; cases hst
    · exact absurd hst (hs _ _)
  · intro h1 h2
    rcases h.cases with ⟨_, _, hs, _⟩ | ⟨hs, _⟩ | ⟨_, _, h8, hr⟩
    · exact absurd hs (h1 _ _)
    · exact absurd hs h2
    · have := h8.length_le; simp [START] at this; omega

theorem WInv.tileEnd {w : List UInt8} {d : Dec} {b i : Nat} (h : WInv w d) (hb : b + w.length = i) :
    Spec.tileEnd b i (d.finalize).2 = true := by
  rw [h.finalize]
  split <;> simp [Spec.tileEnd] <;> omega

theorem winv_push {w : List UInt8} {d : Dec} (h : WInv w d) (x : UInt8) :
    WRep (w ++ [x]) (d.push x).2 ∧ WInv (winNext (w ++ [x]) (d.push x).2) (d.push x).1 := by
  have hp := wpost_pushByte h x
  rw [push_eq]
  generalize d.pushByte x = p at hp
  obtain ⟨d', r⟩ := p
  cases r <;> exact hp

theorem winNext_suffix (w : List UInt8) {o : Out} (h : WRep w o) : winNext w o <:+ w := by
  cases o with
  | none => exact List.suffix_refl _
  | err e =>
    cases e with
    | discarded n => obtain ⟨tile, h1, _⟩ := h; exact ⟨tile, h1.symm⟩
    | _ => exact List.nil_suffix
  | _ => exact List.nil_suffix

/-- the position-only walker of C17 follows the window: `b + |w| = i` -/
theorem tileStep_of_wrep {w : List UInt8} {o : Out} (h : WRep w o) {b i : Nat}
    (hb : b + w.length = i + 1) :
    ∃ b', Spec.tileStep b i o = some b' ∧ b' + (winNext w o).length = i + 1 := by
  cases o with
  | none => exact ⟨b, rfl, hb⟩
  | msg m => exact ⟨i + 1, rfl, rfl⟩
  | panic s => exact h.elim
  | err e =>
    cases e with
    | discarded n =>
      obtain ⟨tile, h1, h2, h3, _⟩ := h
      have hl : w.length = n + 8 := by rw [h1, List.length_append, h2]; rfl
      refine ⟨i + 1 - 8, ?_, ?_⟩
      · simp only [Spec.tileStep]
        rw [if_pos (by omega)]
      · simp only [winNext, START, List.length_cons, List.length_nil]
        omega
    | _ => exact ⟨i + 1, rfl, rfl⟩

/-- the invariant along a stream: the window stays a suffix of the bytes consumed, and the walker
of C17 is at `b' = position - |window|` -/
theorem winv_pushAll (s : List UInt8) : ∀ {w : List UInt8} {d : Dec} {b i : Nat},
    WInv w d → b + w.length = i →
    ∃ w' b', WInv w' (d.pushAll s).1 ∧ w' <:+ w ++ s ∧
      Spec.tileFrom b i (d.pushAll s).2 = some b' ∧ b' + w'.length = i + s.length := by
  induction s with
  | nil => intro w d b i h hb; exact ⟨w, b, h, by simp, rfl, hb⟩
  | cons x xs ih =>
    intro w d b i h hb
    obtain ⟨hr, hn⟩ := winv_push h x
    obtain ⟨b1, e1, hb1⟩ := tileStep_of_wrep hr (b := b) (i := i) (by simp; omega)
    obtain ⟨w', b', g1, g2, g3, g4⟩ := ih hn hb1
    refine ⟨w', b', g1, ?_, ?_, by simp; omega⟩
    · obtain ⟨t, ht⟩ := winNext_suffix _ hr
      exact g2.trans ⟨t, by rw [← List.append_assoc, ht]; simp⟩
    · simp only [pushAll_consR, Spec.tileFrom, e1, g3]

/-- effect of one operation on the bytes consumed since the last `reset` / `finalize` /
replacement of the decoder (`new`, `from_buf`): only `push_byte` extends them, every other
operation starts from nothing.  In particular the stale contents of a buffer handed to
`from_buf` are *not* part of the consumed bytes. -/
def consStep (acc : List UInt8) : Op → List UInt8
  | .push b => acc ++ [b]
  | _ => []

/-- one operation of a history: `c` = bytes pushed since the last `finalize` / `reset` / `new` /
`from_buf` -/
theorem winv_step {w c : List UInt8} {d : Dec} {b i : Nat} (h : WInv w d) (hc : w <:+ c)
    (hb : b + w.length = i) (op : Op) :
    ∃ w' b', WInv w' (d.step op).1 ∧ w' <:+ consStep c op ∧
      Spec.tileOpStep b i (d.step op).2 = some (b', i + Spec.pushCount [op]) ∧
      b' + w'.length = i + Spec.pushCount [op] := by
  cases op with
  | push x =>
    obtain ⟨hr, hn⟩ := winv_push h x
    obtain ⟨b1, e1, hb1⟩ := tileStep_of_wrep hr (b := b) (i := i) (by simp; omega)
    obtain ⟨t, ht⟩ := hc
    exact ⟨_, b1, hn, (winNext_suffix _ hr).trans ⟨t, by rw [← ht, consStep, List.append_assoc]⟩,
      by simp only [step, Spec.tileOpStep, e1, Spec.pushCount], hb1⟩
  | fin =>
    exact ⟨[], i, winv_reset d, List.nil_suffix,
      by simp only [step, Spec.tileOpStep, h.tileEnd hb, if_true, Spec.pushCount, Nat.add_zero], rfl⟩
  | reset =>
    exact ⟨[], i, winv_reset d, List.nil_suffix,
      by simp only [step, Spec.tileOpStep, Spec.tileReset, h.reset_count, hb, decide_true, if_true,
        Spec.pushCount, Nat.add_zero], rfl⟩
  | _ => exact ⟨[], i, winv_fresh _, List.nil_suffix, rfl, rfl⟩

theorem step_msg {w c : List UInt8} {d : Dec} (h : WInv w d) (hc : w <:+ c) {op : Op}
    {m : List UInt8} (hm : (d.step op).2 = .out (.msg m)) : frame m <:+ consStep c op := by
  cases op with
  | push x =>
    have hr := (winv_push h x).1
    rw [show (d.push x).2 = .msg m from OpOut.out.inj hm] at hr
    obtain ⟨t, ht⟩ := hc
    exact ⟨t, by rw [← hr, ← ht, consStep, List.append_assoc]⟩
  | _ => cases hm

theorem foldl_consStep_push (s : List UInt8) : ∀ c : List UInt8,
    (s.map Op.push).foldl consStep c = c ++ s := by
  induction s with
  | nil => intro c; simp
  | cons x xs ih => intro c; simp [consStep, ih]

theorem winv_run (ops : List Op) : ∀ {w c : List UInt8} {d : Dec} {b i : Nat},
    WInv w d → w <:+ c → b + w.length = i →
    ∃ w' b', WInv w' (d.run ops).1 ∧ w' <:+ ops.foldl consStep c ∧
      Spec.tileOps b i (d.run ops).2 = some (b', i + Spec.pushCount ops) ∧
      b' + w'.length = i + Spec.pushCount ops := by
  induction ops with
  | nil => intro w c d b i h hc hb; exact ⟨w, b, h, hc, rfl, hb⟩
  | cons op ops ih =>
    intro w c d b i h hc hb
    obtain ⟨w1, b1, g1, g2, g3, g4⟩ := winv_step h hc hb op
    obtain ⟨w2, b2, k1, k2, k3, k4⟩ := ih g1 g2 g4
    rw [pushCount_cons, ← Nat.add_assoc]
    exact ⟨w2, b2, k1, k2, by simp only [run, Spec.tileOps, g3, k3], k4⟩

/-- Answer number `i` of a stream describes the window that ends with byte `i`; the window begins
at the boundary the walker of C17 has reached on the earlier answers (`w0`: the window at the
beginning, which starts at position `b`). -/
theorem wrep_from {w0 : List UInt8} {d : Dec} {b i0 : Nat} (h0 : WInv w0 d)
    (hb : b + w0.length = i0) (s : List UInt8) (i : Nat) (o : Out)
    (h : (d.pushAll s).2[i]? = some o) :
    ∃ pre w, w0 ++ s.take (i + 1) = pre ++ w ∧ i < s.length ∧ WRep w o ∧
      Spec.tileFrom b i0 ((d.pushAll s).2.take i) = some (b + pre.length) := by
  obtain ⟨x, hx, hi, ho⟩ := pushAll_getElem? s _ i _ h
  obtain ⟨w, b', h1, ⟨pre, hpre⟩, h3, h4⟩ := winv_pushAll (s.take i) h0 hb
  rw [pushAll_take] at h3
  have hl : b + pre.length = b' := by
    have := congrArg List.length hpre
    simp only [List.length_append] at this
    omega
  exact ⟨pre, w ++ [x], by rw [hx, ← List.append_assoc, ← hpre, List.append_assoc], hi,
    by rw [ho]; exact (winv_push h1 x).1, by rw [h3, hl]⟩

theorem wrep_at (cap : Option Nat) (s : List UInt8) (i : Nat) (o : Out)
    (h : ((fresh cap).pushAll s).2[i]? = some o) :
    ∃ pre w, s.take (i + 1) = pre ++ w ∧ i < s.length ∧ WRep w o ∧
      Spec.tileFrom 0 0 (((fresh cap).pushAll s).2.take i) = some pre.length := by
  simpa using wrep_from (winv_fresh cap) (b := 0) rfl s i o h

/-! ### Silent runs

Two converses of each other, both read off `winv_push`: an answer other than `Ok(None)` means that
the window contains the start sequence (`WRep.start_infix`), so input that completes none is consumed
silently (`winv_startFree`); and a silent answer leaves the window standing, so after a silent run the
window is everything consumed (`winv_silent`), which gives `raw`, the count `reset` returns and the
report of `finalize` (`WInv.raw`, `reset_count`, `finalize`). -/

theorem WRep.start_infix {w : List UInt8} {o : Out} (h : WRep w o) (ho : o ≠ .none) :
    START <:+: w := by
  cases o with
  | none => exact absurd rfl ho
  | msg m => exact ⟨[], _, by rw [show w = frame m from h, frame_eq_parts]; rfl⟩
  | panic _ => exact h.elim
  | err e =>
    cases e with
    | discarded n => obtain ⟨tile, h1, _⟩ := h; exact ⟨tile, [], by rw [h1, List.append_nil]⟩
    | _ => exact List.IsPrefix.isInfix h

/-- a silent answer extends the window by the byte -/
theorem winv_push_none {w : List UInt8} {d : Dec} (h : WInv w d) {x : UInt8}
    (ho : (d.push x).2 = .none) : WInv (w ++ [x]) (d.push x).1 := by
  have := (winv_push h x).2
  rwa [ho] at this

/-- after a silent run the window is the old window and all of the input -/
theorem winv_silent (s : List UInt8) : ∀ {w : List UInt8} {d : Dec}, WInv w d →
    (d.pushAll s).2 = List.replicate s.length Out.none → WInv (w ++ s) (d.pushAll s).1 := by
  induction s with
  | nil => intro w d h _; rw [List.append_nil]; exact h
  | cons x xs ih =>
    intro w d h ho
    rw [pushAll_consR, List.length_cons, List.replicate_succ] at ho
    obtain ⟨h1, h2⟩ := List.cons.inj ho
    rw [pushAll_consR, List.append_cons]
    exact ih (winv_push_none h h1) h2

/-- input that completes no start sequence is consumed silently, from any state -/
theorem winv_startFree (s : List UInt8) : ∀ {w : List UInt8} {d : Dec}, WInv w d →
    C08.StartFree (w ++ s) →
    (d.pushAll s).2 = List.replicate s.length Out.none ∧ WInv (w ++ s) (d.pushAll s).1 := by
  induction s with
  | nil => intro w d h _; exact ⟨rfl, by rw [List.append_nil]; exact h⟩
  | cons x xs ih =>
    intro w d h hf
    have ho : (d.push x).2 = .none := Decidable.byContradiction fun hne =>
      (C08.startFree_iff _).1 hf (((winv_push h x).1.start_infix hne).trans
        ⟨[], xs, by simp⟩)
    rw [List.append_cons] at hf ⊢
    obtain ⟨g1, g2⟩ := ih (winv_push_none h ho) hf
    rw [pushAll_consR, ho, g1]
    exact ⟨rfl, g2⟩

/-- The byte that completes the first start sequence of the window, in any state: the bytes before
it are reported (if there are any), and the decoder is in the post-START state with nothing held. -/
theorem push_start {w : List UInt8} {d : Dec} (h : WInv w d) (hw : C08.StartFree w) {x : UInt8}
    (hx : START <:+ w ++ [x]) :
    d.push x = (⟨8, startCrc, .normal, 0, ⟨d.buf.cap, []⟩⟩,
      if w.length = 7 then .none else .err (.discarded (w.length - 7))) := by
  have hl : 8 ≤ (w ++ [x]).length := hx.length_le
  rw [List.length_append, List.length_singleton] at hl
  rcases h.cases with ⟨disc, init, hst, _⟩ | ⟨_, h0⟩ | ⟨_, _, h8, _⟩
  · simp only [WInv, hst, WI] at h
    obtain ⟨hb, hz, _, hlen, htr, _⟩ := h
    have h8 := (C17.hit_iff_suffix htr x).2 hx
    have h7 := (Resync.delta_eq_8.1 h8).1
    obtain ⟨r, c, s, z, ⟨cp, rd⟩⟩ := d
    simp only at hb hz hst
    subst hb hz hst
    rw [push_eq, Resync.pushByte_look_hit rfl h8]
    by_cases h0 : w.length = 7
    · rw [if_pos h0, if_neg (by omega)]; rfl
    · rw [if_neg h0, if_pos (by omega), show disc = w.length - 7 by omega]; rfl
  · rw [h0] at hl; simp at hl
  · exact absurd h8.isInfix ((C08.startFree_iff w).1 hw)

end Dec

end Sml
