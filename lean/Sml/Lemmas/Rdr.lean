import Sml.Lemmas.DecEquiv
import Sml.Lemmas.DecFront
/-
  `DecoderReader` (`Rdr`, Sml/Model/Frontends.lean) for every byte source.

  `read` (decoder_reader.rs:66-87) loops over `read_byte()`.  What a read attempt yields — a byte, an
  error of kind `Eof` / `WouldBlock` / `Other`, or a retry inside `read_exact` — depends on the source
  only (util.rs `ByteSourceErr::kind`); what `read` does with it depends on the decoder only.  `evStep`
  is the two composed: what one event does to the decoder, and the result (at most one) it makes
  `read` return.  `readLoop_nil` and `readLoop_cons` are where `read` is unfolded; everything after
  them speaks of `evStep` / `atEnd`, and an induction over events has the two cases "nothing
  returned" and "`x` returned".

  Namespace `RF` ("reader with faults"): what is said about a `DecoderReader` whose source can fail;
  `Rdr` is the model's own namespace (`Rdr.read`, `Rdr.calls`, …).
-/
namespace Sml

theorem zipWith_replicate_left' {α β γ : Type} (f : α → β → γ) (a : α) (l : List β) :
    List.zipWith f (List.replicate l.length a) l = l.map (f a) := by
  rw [← List.map_const', List.zipWith_map_left, List.zipWith_self]

theorem zipWith_replicate_right' {α β γ : Type} (f : α → β → γ) (b : β) (l : List α) :
    List.zipWith f l (List.replicate l.length b) = l.map (fun a => f a b) := by
  rw [← List.map_const', List.zipWith_map_right, List.zipWith_self]

namespace Rdr

theorem calls_nil (r : Rdr) : r.calls [] = (r, []) := rfl

theorem calls_cons (r : Rdr) (c : Call) (cs : List Call) :
    r.calls (c :: cs) = (((r.call c).1.calls cs).1, (r.call c).2 :: ((r.call c).1.calls cs).2) :=
  rfl

theorem calls_length (cs : List Call) : ∀ r : Rdr, (r.calls cs).2.length = cs.length := by
  induction cs with
  | nil => intro r; rfl
  | cons c cs ih => intro r; rw [calls_cons]; simp [ih]

end Rdr

namespace RF
open Rdr

/-- The entry points `next`, `read_nb`, `next_nb` (decoder_reader.rs:101-141) are `read` plus a
relabelling of its result: how the entry point `c` presents the result of `read`. -/
def view : Call → RItem → RItem
  | .read, x => x
  | .next, x => match x with | .ioErr .eof 0 => .none | x => x
  | .readNb, x => match x with | .ioErr .wouldBlock _ => .nbWouldBlock | x => x
  | .nextNb, x =>
    match x with | .ioErr .wouldBlock _ => .nbWouldBlock | .ioErr .eof 0 => .none | x => x

theorem call_eq_read (r : Rdr) (c : Call) : r.call c = ((r.read).1, view c (r.read).2) := by
  cases c <;> simp only [call, Rdr.next, readNb, nextNb] <;> rcases r.read with ⟨r', x⟩ <;>
    rcases x with _ | _ | ⟨_ | _ | _, _ | _⟩ | _ | _ | _ <;> rfl

theorem view_ok_self (c : Call) (m : List UInt8) : view c (.ok m) = .ok m := by
  cases c <;> rfl

theorem view_eq_or (c : Call) (x : RItem) :
    view c x = x ∨ view c x = .none ∨ view c x = .nbWouldBlock := by
  cases c <;> rcases x with _ | _ | ⟨_ | _ | _, _ | _⟩ | _ | _ | _ <;>
    first | exact Or.inl rfl | exact Or.inr (Or.inl rfl) | exact Or.inr (Or.inr rfl)

/-- a result that is neither `None` nor a non-blocking would-block is what `read` returned -/
theorem view_eq_of {c : Call} {x y : RItem} (h : view c x = y) (h1 : y ≠ .none)
    (h2 : y ≠ .nbWouldBlock) : x = y := by
  rcases view_eq_or c x with e | e | e <;> rw [e] at h
  · exact h
  · exact absurd h.symm h1
  · exact absurd h.symm h2

/-- what `read` returns for a non-`None` result of `push_byte`.  The list and iterator front-ends
write the same as `Item.toR` of `Out.toItem?` (DecFront); `trace_bytes` is where the two meet. -/
def outItem : Out → List RItem
  | .none => []
  | .msg m => [.ok m]
  | .err e => [.decErr e]
  | .panic s => [.panic s]

end RF

namespace C10

/-- what `next` reports at end of input when `r` bytes of an unfinished frame are discarded (a name
of C10, which is stated with it; it stands here because the reader lemmas need it) -/
def eofItems (r : Nat) : List RItem := if r = 0 then [] else [RItem.ioErr .eof r]

theorem eofItems_reset {d : Dec} (h : Dec.Inv d) : eofItems d.reset.2 = C15.finalRItem d := by
  unfold eofItems C15.finalRItem
  rw [Dec.finalize_eq_reset h]
  split <;> simp_all

end C10

namespace C11

/-- remove the would-block results (a name of C11, which is stated with it; it stands here because
`trace_strip` needs it) -/
def dropWB (l : List RItem) : List RItem := l.filter (· ≠ RItem.ioErr .wouldBlock 0)

end C11

theorem RF.dropWB_append (a b : List RItem) : C11.dropWB (a ++ b) = C11.dropWB a ++ C11.dropWB b :=
  List.filter_append ..

open RF (view outItem)

namespace Rdr

theorem ne_eh {kind : SrcKind} (hk : kind = .mem ∨ kind = .io) : kind ≠ .eh := by
  rcases hk with rfl | rfl <;> simp

/-- the decoder operations one event causes inside `read` -/
def evOps (kind : SrcKind) : Ev → List Op
  | .byte b => [.push b]
  | .wouldBlock => []
  | .interrupted => if kind = .io then [] else [.reset]
  | .other => [.reset]
  | .eof => [.reset]

/-- what the event does to the decoder, and the result it makes `read` return (at most one) -/
def evStep (kind : SrcKind) (d : Dec) : Ev → Dec × List RItem
  | .byte b => ((d.push b).1, outItem (d.push b).2)
  | .wouldBlock => (d, [.ioErr .wouldBlock 0])
  | .interrupted => if kind = .io then (d, []) else (d.reset.1, [.ioErr .other d.reset.2])
  | .other => (d.reset.1, [.ioErr .other d.reset.2])
  | .eof => (d.reset.1, [.ioErr (if kind = .eh then .other else .eof) d.reset.2])

/-- the answer of `read` when the events are used up -/
def atEnd (kind : SrcKind) (d : Dec) : Dec × RItem :=
  if kind = .eh then (d, .ioErr .wouldBlock 0) else (d.reset.1, .ioErr .eof d.reset.2)

/-- the answer of `read` from the second call after the events are used up -/
def idleItem (kind : SrcKind) : RItem := if kind = .eh then .ioErr .wouldBlock 0 else .ioErr .eof 0

theorem idleItem_of_ne {kind : SrcKind} (hk : kind ≠ .eh) : idleItem kind = .ioErr .eof 0 := if_neg hk

theorem atEnd_of_ne {kind : SrcKind} (hk : kind ≠ .eh) (d : Dec) :
    atEnd kind d = (d.reset.1, .ioErr .eof d.reset.2) := if_neg hk

theorem evStep_msg (kind : SrcKind) {d d' : Dec} {y : UInt8} {p : List UInt8}
    (h : d.push y = (d', .msg p)) : evStep kind d (.byte y) = (d', [.ok p]) := by
  show ((d.push y).1, outItem (d.push y).2) = _; rw [h]; rfl

theorem evStep_fst (kind : SrcKind) (d : Dec) (e : Ev) :
    (evStep kind d e).1 = (d.run (evOps kind e)).1 := by
  cases e <;> cases kind <;> rfl

theorem evStep_cases (kind : SrcKind) (d : Dec) (e : Ev) :
    (evStep kind d e).2 = [] ∨ ∃ x, (evStep kind d e).2 = [x] := by
  cases e with
  | byte b => cases h : (d.push b).2 <;> simp [evStep, outItem, h]
  | interrupted => cases kind <;> simp [evStep]
  | _ => exact Or.inr ⟨_, rfl⟩

theorem readLoop_nil (kind : SrcKind) (d : Dec) :
    readLoop kind d [] = ({ kind := kind, dec := (atEnd kind d).1, evs := [] }, (atEnd kind d).2) := by
  cases kind <;> rfl

theorem read_nil {kind : SrcKind} (hk : kind ≠ .eh) (d : Dec) :
    read { kind := kind, dec := d, evs := [] } =
      ({ kind := kind, dec := d.reset.1, evs := [] }, .ioErr .eof d.reset.2) := by
  rw [read, readLoop_nil, atEnd_of_ne hk]

theorem next_nil {kind : SrcKind} (hk : kind ≠ .eh) (d : Dec) :
    next { kind := kind, dec := d, evs := [] } =
      ({ kind := kind, dec := d.reset.1, evs := [] },
        if d.reset.2 = 0 then .none else .ioErr .eof d.reset.2) := by
  unfold next
  rw [read_nil hk]
  cases h : d.reset.2 <;> rfl

/-- one event: `read` goes on if the event produces nothing, and returns what it produces -/
theorem readLoop_cons (kind : SrcKind) (d : Dec) (e : Ev) (evs : List Ev) :
    readLoop kind d (e :: evs) =
      match (evStep kind d e).2 with
      | [] => readLoop kind (evStep kind d e).1 evs
      | x :: _ => ({ kind := kind, dec := (evStep kind d e).1, evs := evs }, x) := by
  cases e with
  | byte b =>
    show _ = match outItem (d.push b).2 with
      | [] => readLoop kind (d.push b).1 evs
      | x :: _ => ({ kind := kind, dec := (d.push b).1, evs := evs }, x)
    rw [Dec.push_eq, readLoop]
    rcases hp : d.pushByte b with ⟨d', r⟩
    cases r with
    | ready => simp [outItem, Dec.resOut, Dec.borrowBuf, Dec.isDone, Dec.pushByte_ready hp]
    | _ => rfl
  | interrupted => cases kind <;> rfl
  | eof => cases kind <;> rfl
  | _ => rfl

theorem readLoop_cons_quiet {kind : SrcKind} {d : Dec} {e : Ev} (h : (evStep kind d e).2 = [])
    (evs : List Ev) : readLoop kind d (e :: evs) = readLoop kind (evStep kind d e).1 evs := by
  rw [readLoop_cons, h]

theorem readLoop_cons_item {kind : SrcKind} {d : Dec} {e : Ev} {x : RItem}
    (h : (evStep kind d e).2 = [x]) (evs : List Ev) :
    readLoop kind d (e :: evs) = ({ kind := kind, dec := (evStep kind d e).1, evs := evs }, x) := by
  rw [readLoop_cons, h]

/-- no events left: the first call gets the end answer -/
theorem calls_evs_nil (kind : SrcKind) (d : Dec) (c : Call) (cs : List Call) :
    ({ kind := kind, dec := d, evs := [] } : Rdr).calls (c :: cs) =
      ((({ kind := kind, dec := (atEnd kind d).1, evs := [] } : Rdr).calls cs).1,
        view c (atEnd kind d).2 ::
          (({ kind := kind, dec := (atEnd kind d).1, evs := [] } : Rdr).calls cs).2) := by
  rw [calls_cons, RF.call_eq_read, read, readLoop_nil]

/-- one event: if it produces nothing the pending call stays pending, if it produces `x` the call is
answered with it and the remaining calls see the remaining events -/
theorem calls_evs_cons (kind : SrcKind) (d : Dec) (e : Ev) (evs : List Ev) (c : Call)
    (cs : List Call) :
    ({ kind := kind, dec := d, evs := e :: evs } : Rdr).calls (c :: cs) =
      match (evStep kind d e).2 with
      | [] => ({ kind := kind, dec := (evStep kind d e).1, evs := evs } : Rdr).calls (c :: cs)
      | x :: _ =>
        ((({ kind := kind, dec := (evStep kind d e).1, evs := evs } : Rdr).calls cs).1,
          view c x :: (({ kind := kind, dec := (evStep kind d e).1, evs := evs } : Rdr).calls cs).2) := by
  rw [calls_cons, RF.call_eq_read, read, readLoop_cons]
  rcases evStep_cases kind d e with h | ⟨x, h⟩ <;> rw [h]
  · show _ = calls _ (c :: cs)
    rw [calls_cons, RF.call_eq_read, read]

/-- the results `read` produces while events are left -/
def trace (kind : SrcKind) (d : Dec) : List Ev → List RItem
  | [] => []
  | e :: evs => (evStep kind d e).2 ++ trace kind (evStep kind d e).1 evs

/-- the decoder when the events are used up -/
def decAfter (kind : SrcKind) (d : Dec) : List Ev → Dec
  | [] => d
  | e :: evs => decAfter kind (evStep kind d e).1 evs

theorem decAfter_eq_run (kind : SrcKind) (evs : List Ev) : ∀ d : Dec,
    decAfter kind d evs = (d.run (evs.flatMap (evOps kind))).1 := by
  induction evs with
  | nil => intro d; rfl
  | cons e evs ih =>
    intro d
    rw [decAfter, ih, evStep_fst, List.flatMap_cons, Dec.run_append]

theorem trace_append (kind : SrcKind) (e1 : List Ev) : ∀ (d : Dec) (e2 : List Ev),
    trace kind d (e1 ++ e2) = trace kind d e1 ++ trace kind (decAfter kind d e1) e2 := by
  induction e1 with
  | nil => intro d e2; rfl
  | cons e e1 ih => intro d e2; simp only [List.cons_append, trace, decAfter, ih, List.append_assoc]

theorem decAfter_append (kind : SrcKind) (e1 : List Ev) : ∀ (d : Dec) (e2 : List Ev),
    decAfter kind d (e1 ++ e2) = decAfter kind (decAfter kind d e1) e2 := by
  induction e1 with
  | nil => intro d e2; rfl
  | cons e e1 ih => intro d e2; simp only [List.cons_append, decAfter, ih]

theorem readLoop_append_quiet (kind : SrcKind) (pre : List Ev) : ∀ (d : Dec) (rest : List Ev),
    trace kind d pre = [] →
    readLoop kind d (pre ++ rest) = readLoop kind (decAfter kind d pre) rest := by
  induction pre with
  | nil => intro d rest _; rfl
  | cons e pre ih =>
    intro d rest hq
    obtain ⟨h1, h2⟩ := List.append_eq_nil_iff.1 hq
    rw [List.cons_append, readLoop_cons_quiet h1, ih _ _ h2, decAfter]

theorem atEnd_idle (kind : SrcKind) (d : Dec) :
    (atEnd kind (atEnd kind d).1).2 = idleItem kind := by
  cases kind <;> rfl

theorem calls_idle (kind : SrcKind) (cs : List Call) : ∀ d : Dec, (atEnd kind d).2 = idleItem kind →
    (({ kind := kind, dec := d, evs := [] } : Rdr).calls cs).2 =
      cs.map (fun c => view c (idleItem kind)) := by
  induction cs with
  | nil => intro d _; rfl
  | cons c cs ih =>
    intro d h
    rw [calls_cons, RF.call_eq_read, read, readLoop_nil, h, List.map_cons]
    simp only
    rw [ih _ (atEnd_idle kind d)]

/-- Any sequence of `read` / `next` / `read_nb` / `next_nb` calls, any source kind, any events, any
decoder state: the `i`-th call presents (`view`) the `i`-th element of `trace`, then the end answer
for the decoder the events lead to, then the idle answer forever.  Induction over the events: an
event that returns nothing leaves the first call pending, an event that returns `x` answers it, and
the remaining calls see the remaining events (`calls_evs_nil`, `calls_evs_cons`). -/
theorem calls_eq_trace (kind : SrcKind) (evs : List Ev) : ∀ (d : Dec) (cs : List Call),
    (({ kind := kind, dec := d, evs := evs } : Rdr).calls cs).2 =
      List.zipWith view cs
        (padTo (idleItem kind) (trace kind d evs ++ [(atEnd kind (decAfter kind d evs)).2])
          cs.length) := by
  induction evs with
  | nil =>
    intro d cs
    cases cs with
    | nil => rfl
    | cons c cs =>
      rw [calls_evs_nil, calls_idle kind cs _ (atEnd_idle kind d)]
      simp only [trace, decAfter, List.nil_append, List.length_cons, padTo_cons, padTo_nil,
        List.zipWith_cons_cons]
      rw [zipWith_replicate_right']
  | cons e evs ih =>
    intro d cs
    cases cs with
    | nil => rfl
    | cons c cs =>
      rw [calls_evs_cons]
      rcases evStep_cases kind d e with h | ⟨x, h⟩
      · simp only [h, ih, trace, decAfter, List.nil_append]
      · simp only [h, ih, trace, decAfter, List.cons_append, List.nil_append, List.length_cons,
          padTo_cons, List.zipWith_cons_cons]

/-- Events `pre`, then `tail`.  As many calls as `pre` produces results return these results; one
more call consumes what is left of `pre` silently and is a `read` on `tail` from the decoder `pre`
leads to.  Unlike `calls_eq_trace` this gives the reader afterwards (`.1`: where the source stands),
which `C01.calls_through_faults` needs.  Same induction as `calls_eq_trace`. -/
theorem calls_prefix (kind : SrcKind) (pre : List Ev) : ∀ (d : Dec) (cs : List Call) (c : Call)
    (tail : List Ev), cs.length = (trace kind d pre).length →
    ({ kind := kind, dec := d, evs := pre ++ tail } : Rdr).calls (cs ++ [c]) =
      ((read { kind := kind, dec := decAfter kind d pre, evs := tail }).1,
        List.zipWith view cs (trace kind d pre) ++
          [view c (read { kind := kind, dec := decAfter kind d pre, evs := tail }).2]) := by
  induction pre with
  | nil =>
    intro d cs c tail hl
    cases cs with
    | nil =>
      show ({ kind := kind, dec := d, evs := tail } : Rdr).calls [c] = _
      rw [calls_cons, RF.call_eq_read]; rfl
    | cons _ _ => cases hl
  | cons e pre ih =>
    intro d cs c tail hl
    rcases evStep_cases kind d e with h | ⟨x, h⟩
    · rw [trace, h, List.nil_append] at hl
      have := ih (evStep kind d e).1 cs c tail hl
      simp only [trace, decAfter, h, List.nil_append, ← this]
      cases cs <;> simp only [List.cons_append, List.nil_append, calls_evs_cons, h]
    · cases cs with
      | nil => simp [trace, h] at hl
      | cons c0 cs =>
        have hl' : cs.length = (trace kind (evStep kind d e).1 pre).length := by
          simpa [trace, h] using hl
        simp only [List.cons_append, calls_evs_cons, h, ih _ cs c tail hl', trace, decAfter,
          List.nil_append, List.zipWith_cons_cons]

theorem evStep_equiv (kind : SrcKind) {d d' : Dec} (h : Dec.Equiv d d') (e : Ev) :
    (evStep kind d e).2 = (evStep kind d' e).2 ∧
      Dec.Equiv (evStep kind d e).1 (evStep kind d' e).1 := by
  have hr := Dec.reset_equiv h
  have hreset : ∀ k : IoKind,
      ([RItem.ioErr k d.reset.2] : List RItem) = [RItem.ioErr k d'.reset.2] := fun k => by rw [hr.1]
  cases e with
  | byte b =>
    have hp := Dec.step_equiv h (.push b)
    exact ⟨congrArg outItem (OpOut.out.inj hp.1), hp.2⟩
  | wouldBlock => exact ⟨rfl, h⟩
  | interrupted => cases kind <;> first | exact ⟨rfl, h⟩ | exact ⟨hreset _, hr.2⟩
  | other => exact ⟨hreset _, hr.2⟩
  | eof => exact ⟨hreset _, hr.2⟩

theorem trace_equiv (kind : SrcKind) (evs : List Ev) : ∀ {d d' : Dec}, Dec.Equiv d d' →
    trace kind d evs = trace kind d' evs ∧
      Dec.Equiv (decAfter kind d evs) (decAfter kind d' evs) := by
  induction evs with
  | nil => intro d d' h; exact ⟨rfl, h⟩
  | cons e evs ih =>
    intro d d' h
    obtain ⟨h1, h2⟩ := evStep_equiv kind h e
    exact ⟨by simp only [trace, h1, (ih h2).1], (ih h2).2⟩

theorem atEnd_equiv (kind : SrcKind) {d d' : Dec} (h : Dec.Equiv d d') :
    (atEnd kind d).2 = (atEnd kind d').2 := by
  cases kind <;> first | rfl | exact congrArg (RItem.ioErr .eof) (Dec.reset_equiv h).1

theorem calls_equiv (kind : SrcKind) (evs : List Ev) (cs : List Call) {d d' : Dec}
    (h : Dec.Equiv d d') :
    (({ kind := kind, dec := d, evs := evs } : Rdr).calls cs).2 =
      (({ kind := kind, dec := d', evs := evs } : Rdr).calls cs).2 := by
  rw [calls_eq_trace, calls_eq_trace, (trace_equiv kind evs h).1,
    atEnd_equiv kind (trace_equiv kind evs h).2]

/-- An event that resets the decoder, between `pre` and `post`: what `pre` produces, the result of
the event, then what a new reader produces on `post`; and the decoder ends up as good as the one of
a new reader on `post` alone. -/
theorem trace_cut_fresh (kind : SrcKind) (cap : Option Nat) (pre post : List Ev) {e : Ev}
    (he : evOps kind e = [.reset]) :
    trace kind (Dec.fresh cap) (pre ++ e :: post) =
        trace kind (Dec.fresh cap) pre ++
          (evStep kind (decAfter kind (Dec.fresh cap) pre) e).2 ++
            trace kind (Dec.fresh cap) post ∧
      Dec.Equiv (decAfter kind (Dec.fresh cap) (pre ++ e :: post))
        (decAfter kind (Dec.fresh cap) post) := by
  have hf : Dec.Equiv (evStep kind (decAfter kind (Dec.fresh cap) pre) e).1 (Dec.fresh cap) := by
    rw [evStep_fst, he, decAfter_eq_run]
    exact Dec.reset_run_equiv_fresh cap _
  have := trace_equiv kind post hf
  rw [trace_append, decAfter_append, trace, decAfter, List.append_assoc, this.1]
  exact ⟨rfl, this.2⟩

theorem flatMap_filter_ne_nil {α β : Type} [BEq β] [LawfulBEq β] (f : α → List β) (l : List α) :
    (l.filter (fun a => f a != [])).flatMap f = l.flatMap f := by
  induction l with
  | nil => rfl
  | cons a l ih => by_cases h : f a = [] <;> simp [h, ih]

/-- the events that reach the decoder: all but `WouldBlock` and, over an `io::Read`, `Interrupted` -/
def strip (kind : SrcKind) (evs : List Ev) : List Ev := evs.filter (fun e => evOps kind e != [])

theorem strip_cons (kind : SrcKind) (e : Ev) (evs : List Ev) :
    strip kind (e :: evs) = if evOps kind e = [] then strip kind evs else e :: strip kind evs := by
  by_cases h : evOps kind e = [] <;> simp [strip, h]

theorem decAfter_strip (kind : SrcKind) (evs : List Ev) (d : Dec) :
    decAfter kind d (strip kind evs) = decAfter kind d evs := by
  rw [decAfter_eq_run, decAfter_eq_run, strip, flatMap_filter_ne_nil]

/-- an event that does not reach the decoder leaves it alone and shows, if at all, as a
would-block; every other event shows as something else -/
theorem evStep_dropWB (kind : SrcKind) (d : Dec) (e : Ev) :
    (evOps kind e = [] → (evStep kind d e).1 = d ∧ C11.dropWB (evStep kind d e).2 = []) ∧
    (evOps kind e ≠ [] → C11.dropWB (evStep kind d e).2 = (evStep kind d e).2) := by
  cases e with
  | byte b =>
    refine ⟨fun h => (by simp [evOps] at h), fun _ => ?_⟩
    show C11.dropWB (outItem (d.push b).2) = outItem (d.push b).2
    cases (d.push b).2 <;> simp [C11.dropWB, outItem]
  | _ => cases kind <;> simp [evOps, evStep, C11.dropWB]

/-- erasing the would-block results is erasing the events that do not reach the decoder -/
theorem trace_strip (kind : SrcKind) (evs : List Ev) : ∀ d : Dec,
    trace kind d (strip kind evs) = C11.dropWB (trace kind d evs) := by
  induction evs with
  | nil => intro d; rfl
  | cons e evs ih =>
    intro d
    obtain ⟨h1, h2⟩ := evStep_dropWB kind d e
    by_cases he : evOps kind e = []
    · rw [strip_cons, if_pos he, ih, trace, RF.dropWB_append, (h1 he).2, (h1 he).1, List.nil_append]
    · rw [strip_cons, if_neg he, trace, trace, ih, RF.dropWB_append, h2 he]

/-- every would-block event surfaces exactly once -/
theorem count_wb_trace (kind : SrcKind) (evs : List Ev) : ∀ d : Dec,
    (trace kind d evs).count (RItem.ioErr .wouldBlock 0) = evs.count .wouldBlock := by
  induction evs with
  | nil => intro d; rfl
  | cons e evs ih =>
    intro d
    rw [trace, List.count_append, ih]
    cases e with
    | byte b =>
      show (outItem (d.push b).2).count _ + _ = _
      cases (d.push b).2 <;> simp [outItem]
    | _ => cases kind <;> simp [evStep] <;> omega

/-- what `read` never returns while events are left: `None`, a non-blocking would-block, a
would-block with a count; and an end-of-input report only for a mid-stream end of input on a source
that has one -/
theorem trace_mem (kind : SrcKind) (evs : List Ev) : ∀ (d : Dec) (x : RItem), x ∈ trace kind d evs →
    x ≠ .none ∧ x ≠ .nbWouldBlock ∧ ((kind = .eh ∨ Ev.eof ∉ evs) → ∀ n, x ≠ .ioErr .eof n) ∧
      ∀ n, x = .ioErr .wouldBlock n → n = 0 := by
  induction evs with
  | nil => intro d x hx; cases hx
  | cons e evs ih =>
    intro d x hx
    rcases List.mem_append.1 hx with hx | hx
    · cases e with
      | byte b =>
        have hx' : x ∈ outItem (d.push b).2 := hx
        cases ho : (d.push b).2 <;> simp [ho, outItem] at hx' <;> subst hx' <;> simp
      | _ => cases kind <;> simp [evStep] at hx <;> subst hx <;> simp
    · have h := ih _ x hx
      exact ⟨h.1, h.2.1, fun hk => h.2.2.1 (hk.imp id fun hne hc => hne (List.mem_cons_of_mem _ hc)),
        h.2.2.2⟩

theorem trace_length_le (kind : SrcKind) (evs : List Ev) : ∀ d : Dec,
    (trace kind d evs).length ≤ evs.length := by
  induction evs with
  | nil => intro d; exact Nat.le_refl 0
  | cons e evs ih =>
    intro d
    have := ih (evStep kind d e).1
    rw [trace, List.length_append, List.length_cons]
    rcases evStep_cases kind d e with h | ⟨x, h⟩ <;> rw [h] <;> simp <;> omega

theorem readLoop_kind (kind : SrcKind) (evs : List Ev) : ∀ d : Dec,
    (readLoop kind d evs).1.kind = kind := by
  induction evs with
  | nil => intro d; rw [readLoop_nil]
  | cons e evs ih =>
    intro d
    rcases evStep_cases kind d e with h | ⟨x, h⟩
    · rw [readLoop_cons_quiet h]; exact ih _
    · rw [readLoop_cons_item h]

theorem evStep_good (kind : SrcKind) {d : Dec} (h : Dec.Inv d) (e : Ev) :
    Dec.Inv (evStep kind d e).1 ∧ ∀ x ∈ (evStep kind d e).2, ∀ t, x ≠ RItem.panic t := by
  refine ⟨by rw [evStep_fst]; exact Dec.run_inv _ h, ?_⟩
  cases e with
  | byte b =>
    have := Dec.push_no_panic h b
    show ∀ x ∈ outItem (d.push b).2, _
    cases ho : (d.push b).2 <;> simp_all [outItem]
  | interrupted => cases kind <;> simp [evStep]
  | _ => simp [evStep]

theorem atEnd_good (kind : SrcKind) {d : Dec} (h : Dec.Inv d) :
    Dec.Inv (atEnd kind d).1 ∧ ∀ t, (atEnd kind d).2 ≠ .panic t := by
  unfold atEnd; split <;> simp [h, Dec.inv_reset]

theorem readLoop_good (kind : SrcKind) (evs : List Ev) : ∀ {d : Dec}, Dec.Inv d →
    Dec.Inv (readLoop kind d evs).1.dec ∧ ∀ t, (readLoop kind d evs).2 ≠ .panic t := by
  induction evs with
  | nil => intro d h; rw [readLoop_nil]; exact atEnd_good kind h
  | cons e evs ih =>
    intro d h
    obtain ⟨h1, h2⟩ := evStep_good kind h e
    rcases evStep_cases kind d e with hq | ⟨x, hx⟩
    · rw [readLoop_cons_quiet hq]; exact ih h1
    · rw [readLoop_cons_item hx]; exact ⟨h1, h2 x (by rw [hx]; exact List.mem_singleton_self x)⟩

theorem call_good {r : Rdr} (h : Dec.Inv r.dec) (c : Call) :
    Dec.Inv (r.call c).1.dec ∧ ∀ t, (r.call c).2 ≠ .panic t := by
  rw [RF.call_eq_read]
  have := readLoop_good r.kind r.evs h
  exact ⟨this.1, fun t ht => this.2 t (RF.view_eq_of ht nofun nofun)⟩

theorem calls_good (cs : List Call) : ∀ {r : Rdr}, Dec.Inv r.dec →
    Dec.Inv (r.calls cs).1.dec ∧ ∀ x ∈ (r.calls cs).2, ∀ t, x ≠ RItem.panic t := by
  induction cs with
  | nil => intro r h; exact ⟨h, fun x hx => by simp [calls_nil] at hx⟩
  | cons c cs ih =>
    intro r h
    have hc := call_good h c
    have := ih hc.1
    rw [calls_cons]
    refine ⟨this.1, fun x hx t => ?_⟩
    rcases List.mem_cons.1 hx with rfl | hx
    · exact hc.2 t
    · exact this.2 x hx t

theorem calls_replicate (kind : SrcKind) (d : Dec) (evs : List Ev) (c : Call) (k : Nat) :
    (({ kind := kind, dec := d, evs := evs } : Rdr).calls (List.replicate k c)).2 =
      padTo (view c (idleItem kind))
        ((trace kind d evs ++ [(atEnd kind (decAfter kind d evs)).2]).map (view c)) k := by
  rw [calls_eq_trace, List.length_replicate]
  have := zipWith_replicate_left' view c
    (padTo (idleItem kind) (trace kind d evs ++ [(atEnd kind (decAfter kind d evs)).2]) k)
  rw [padTo_length] at this
  rw [this, map_padTo]

/-- `k` successive `next` calls on a source that has an end: what `read` returns as `next` presents
it, the end-of-input report unless nothing is pending, then `None` forever -/
theorem nexts_trace {kind : SrcKind} (hk : kind ≠ .eh) (d : Dec) (evs : List Ev) (k : Nat) :
    (({ kind := kind, dec := d, evs := evs } : Rdr).calls (List.replicate k .next)).2 =
      padTo .none ((trace kind d evs).map (view .next) ++
        C10.eofItems (decAfter kind d evs).reset.2) k := by
  rw [calls_replicate, idleItem_of_ne hk, atEnd_of_ne hk, List.map_append]
  show padTo RItem.none _ k = _
  unfold C10.eofItems
  cases h : (decAfter kind d evs).reset.2 with
  | zero => rw [if_pos rfl, List.append_nil]; exact padTo_snoc_self RItem.none _ k
  | succ n => rw [if_neg (by simp)]; rfl

theorem trace_bytes (kind : SrcKind) (s : List UInt8) : ∀ d : Dec,
    trace kind d (s.map Ev.byte) = ((d.pushAll s).2.filterMap Out.toItem?).map Item.toR := by
  induction s with
  | nil => intro d; rfl
  | cons b s ih =>
    intro d
    rw [List.map_cons, trace, ih, Dec.pushAll_consR]
    show outItem (d.push b).2 ++ _ = _
    cases (d.push b).2 <;> rfl

theorem decAfter_bytes (kind : SrcKind) (s : List UInt8) : ∀ d : Dec,
    decAfter kind d (s.map Ev.byte) = (d.pushAll s).1 := by
  induction s with
  | nil => intro d; rfl
  | cons b s ih => intro d; rw [List.map_cons, decAfter, ih]; rfl

/-- Any sequence of `read` / `next` / `read_nb` / `next_nb` calls on a reader over a slice, an
iterator or an `io::Read` that delivers the bytes `s` without faults. -/
theorem calls_bytes {kind : SrcKind} (hk : kind ≠ .eh) (s : List UInt8) (d : Dec) (cs : List Call) :
    (({ kind := kind, dec := d, evs := s.map Ev.byte } : Rdr).calls cs).2 =
      List.zipWith view cs
        (padTo (.ioErr .eof 0)
          (((d.pushAll s).2.filterMap Out.toItem?).map Item.toR ++
            [.ioErr .eof (d.pushAll s).1.reset.2]) cs.length) := by
  rw [calls_eq_trace, trace_bytes, decAfter_bytes, idleItem_of_ne hk, atEnd_of_ne hk]

/-- fault-free bytes: what `next` presents of the trace, then the end-of-input report, is the
reference sequence of C15 -/
theorem trace_bytes_next (kind : SrcKind) (s : List UInt8) {d : Dec} (h : Dec.Inv d) :
    (trace kind d (s.map Ev.byte)).map (view .next) ++
        C10.eofItems (decAfter kind d (s.map Ev.byte)).reset.2 = d.allRItems s := by
  rw [trace_bytes, decAfter_bytes, C10.eofItems_reset (Dec.pushAll_inv s h), List.map_map]
  unfold Dec.allRItems
  congr 2
  funext x
  cases x <;> rfl

/-- `DecoderReader::next` over a slice / iterator / `io::Read` without faults yields `allRItems`
and then `None` forever -/
theorem nexts_eq {kind : SrcKind} (hk : kind ≠ .eh) (s : List UInt8) {d : Dec} (h : Dec.Inv d)
    (k : Nat) :
    (({ kind := kind, dec := d, evs := s.map Ev.byte } : Rdr).calls (List.replicate k .next)).2 =
      padTo RItem.none (d.allRItems s) k := by
  rw [nexts_trace hk, trace_bytes_next kind s h]

end Rdr

end Sml
