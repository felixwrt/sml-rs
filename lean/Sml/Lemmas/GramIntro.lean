import Sml.Spec.Grammar
/-
  Introduction rules of the grammar relations (pure unfoldings of the definitions in
  Sml/Spec/Grammar.lean; no parser involved).  Used to exhibit concrete encodings.
-/
namespace Sml.Gram
open Sml Sml.Spec

theorem mk_octet (tl v : Bytes) (ht : EncTlf ⟨.octetString, v.length⟩ tl) :
    EncOctet v (tl ++ v) := ⟨tl, rfl, ht⟩

theorem mk_unsigned (size : Nat) (v : Int) (tl data : Bytes)
    (ht : EncTlf ⟨.unsigned, data.length⟩ tl)
    (h1 : 1 ≤ data.length) (h2 : data.length ≤ size) (hv : v = (beNat data : Int)) :
    EncUnsigned size v (tl ++ data) := ⟨tl, data, rfl, ht, h1, h2, hv⟩

theorem mk_signed (size : Nat) (v : Int) (tl data : Bytes)
    (ht : EncTlf ⟨.integer, data.length⟩ tl)
    (h1 : 1 ≤ data.length) (h2 : data.length ≤ size) (hv : v = twos data) :
    EncSigned size v (tl ++ data) := ⟨tl, data, rfl, ht, h1, h2, hv⟩

theorem mk_bool (tl : Bytes) (x : UInt8) (ht : EncTlf ⟨.boolean, 1⟩ tl) :
    EncBool (decide (x ≠ 0)) (tl ++ [x]) := ⟨tl, x, rfl, ht, rfl⟩

theorem mk_none {α : Type} (E : α → Bytes → Prop) : EncOpt E Option.none [0x01] := rfl

theorem mk_some {α : Type} {E : α → Bytes → Prop} {v : α} {bs : Bytes} (h : E v bs)
    (hh : bs.head? ≠ some 0x01) : EncOpt E (some v) bs := ⟨h, hh⟩

theorem mk_time_list (tl tag val : Bytes) (v : Int) (ht : EncTlf ⟨.listOf, 2⟩ tl)
    (h1 : EncUnsigned 1 1 tag) (h2 : EncUnsigned 4 v val) :
    EncTime (.secIndex v) (tl ++ tag ++ val) := Or.inl ⟨tl, tag, val, rfl, ht, h1, h2⟩

theorem mk_time_workaround (v : Int) (tl data : Bytes) (ht : EncTlf ⟨.unsigned, 4⟩ tl)
    (hl : data.length = 4) (hv : v = (beNat data : Int)) : EncTime (.secIndex v) (tl ++ data) :=
  Or.inr ⟨tl, data, rfl, ht, hl, hv⟩

theorem mk_listType (tag body : Bytes) (t : Time) (h1 : EncUnsigned 1 1 tag)
    (h2 : EncTime t body) : EncListType (.time t) (tag ++ body) := ⟨tag, body, rfl, h1, h2⟩

theorem mk_value_int (size : Nat) (v : Int) (tl data : Bytes)
    (ht : EncTlf ⟨.integer, data.length⟩ tl)
    (h1 : 1 ≤ data.length) (h2 : data.length ≤ 8) (hw : WidthClass data.length size)
    (hv : v = twos data) :
    EncValue (.int size v) (tl ++ data) := ⟨tl, data, rfl, ht, h1, h2, hw, hv⟩

theorem mk_value_uns (size : Nat) (v : Int) (tl data : Bytes)
    (ht : EncTlf ⟨.unsigned, data.length⟩ tl)
    (h1 : 1 ≤ data.length) (h2 : data.length ≤ 8) (hw : WidthClass data.length size)
    (hv : v = (beNat data : Int)) :
    EncValue (.uns size v) (tl ++ data) := ⟨tl, data, rfl, ht, h1, h2, hw, hv⟩

theorem mk_value_list (tl body : Bytes) (l : ListType) (ht : EncTlf ⟨.listOf, 2⟩ tl)
    (h : EncListType l body) : EncValue (.list l) (tl ++ body) := ⟨tl, body, rfl, ht, h⟩

theorem mk_status (size : Nat) (v : Int) (tl data : Bytes)
    (ht : EncTlf ⟨.unsigned, data.length⟩ tl)
    (h1 : 1 ≤ data.length) (h2 : data.length ≤ 8) (hw : WidthClass data.length size)
    (hv : v = (beNat data : Int)) :
    EncStatus (.status size v) (tl ++ data) :=
  ⟨tl, data, rfl, ht, h1, h2, hw, hv⟩

theorem mk_listEntry {x : ListEntry} {tl b1 b2 b3 b4 b5 b6 b7 : Bytes}
    (ht : EncTlf ⟨.listOf, 7⟩ tl) (h1 : EncOctet x.objName b1)
    (h2 : EncOpt EncStatus x.status b2) (h3 : EncOpt EncTime x.valTime b3)
    (h4 : EncOpt (EncUnsigned 1) x.unit b4) (h5 : EncOpt (EncSigned 1) x.scaler b5)
    (h6 : EncValue x.value b6) (h7 : EncOpt EncOctet x.valueSignature b7) :
    EncListEntry x (tl ++ b1 ++ b2 ++ b3 ++ b4 ++ b5 ++ b6 ++ b7) :=
  ⟨tl, b1, b2, b3, b4, b5, b6, b7, rfl, ht, h1, h2, h3, h4, h5, h6, h7⟩

theorem mk_openResponse {x : OpenResponse} {tl b1 b2 b3 b4 b5 b6 : Bytes}
    (ht : EncTlf ⟨.listOf, 6⟩ tl) (h1 : EncOpt EncOctet x.codepage b1)
    (h2 : EncOpt EncOctet x.clientId b2) (h3 : EncOctet x.reqFileId b3)
    (h4 : EncOctet x.serverId b4) (h5 : EncOpt EncTime x.refTime b5)
    (h6 : EncOpt (EncUnsigned 1) x.smlVersion b6) :
    EncOpenResponse x (tl ++ b1 ++ b2 ++ b3 ++ b4 ++ b5 ++ b6) :=
  ⟨tl, b1, b2, b3, b4, b5, b6, rfl, ht, h1, h2, h3, h4, h5, h6⟩

theorem mk_closeResponse {x : CloseResponse} {tl b1 : Bytes}
    (ht : EncTlf ⟨.listOf, 1⟩ tl) (h1 : EncOpt EncOctet x.globalSignature b1) :
    EncCloseResponse x (tl ++ b1) := ⟨tl, b1, rfl, ht, h1⟩

theorem mk_valList {xs : List ListEntry} {tl body : Bytes}
    (ht : EncTlf ⟨.listOf, xs.length⟩ tl) (h : EncSeq EncListEntry xs body) :
    EncValList xs (tl ++ body) := ⟨tl, body, rfl, ht, h⟩

theorem mk_getListResponse {x : GetListResponse} {tl b1 b2 b3 b4 b5 b6 b7 : Bytes}
    (ht : EncTlf ⟨.listOf, 7⟩ tl) (h1 : EncOpt EncOctet x.clientId b1)
    (h2 : EncOctet x.serverId b2) (h3 : EncOpt EncOctet x.listName b3)
    (h4 : EncOpt EncTime x.actSensorTime b4) (h5 : EncValList x.valList b5)
    (h6 : EncOpt EncOctet x.listSignature b6) (h7 : EncOpt EncTime x.actGatewayTime b7) :
    EncGetListResponse x (tl ++ b1 ++ b2 ++ b3 ++ b4 ++ b5 ++ b6 ++ b7) :=
  ⟨tl, b1, b2, b3, b4, b5, b6, b7, rfl, ht, h1, h2, h3, h4, h5, h6, h7⟩

theorem mk_body_open {x : OpenResponse} {tl tag body : Bytes} (ht : EncTlf ⟨.listOf, 2⟩ tl)
    (h1 : EncUnsigned 4 0x0101 tag) (h2 : EncOpenResponse x body) :
    EncMessageBody (.openResponse x) (tl ++ tag ++ body) := ⟨tl, tag, body, rfl, ht, h1, h2⟩

theorem mk_body_close {x : CloseResponse} {tl tag body : Bytes} (ht : EncTlf ⟨.listOf, 2⟩ tl)
    (h1 : EncUnsigned 4 0x0201 tag) (h2 : EncCloseResponse x body) :
    EncMessageBody (.closeResponse x) (tl ++ tag ++ body) := ⟨tl, tag, body, rfl, ht, h1, h2⟩

theorem mk_body_getList {x : GetListResponse} {tl tag body : Bytes} (ht : EncTlf ⟨.listOf, 2⟩ tl)
    (h1 : EncUnsigned 4 0x0701 tag) (h2 : EncGetListResponse x body) :
    EncMessageBody (.getListResponse x) (tl ++ tag ++ body) := ⟨tl, tag, body, rfl, ht, h1, h2⟩

theorem mk_messageHead {m : Message} {tl b1 b2 b3 b4 : Bytes}
    (ht : EncTlf ⟨.listOf, 6⟩ tl) (h1 : EncOctet m.transactionId b1)
    (h2 : EncUnsigned 1 m.groupNo b2) (h3 : EncUnsigned 1 m.abortOnError b3)
    (h4 : EncMessageBody m.messageBody b4) :
    EncMessageHead m (tl ++ b1 ++ b2 ++ b3 ++ b4) := ⟨tl, b1, b2, b3, b4, rfl, ht, h1, h2, h3, h4⟩

theorem mk_message {m : Message} {head crcField : Bytes} (hh : EncMessageHead m head)
    (hc : EncUnsigned 2 ((swap16 (crc16 head)).toNat : Int) crcField) :
    EncMessage m (head ++ crcField ++ [0x00]) := ⟨head, crcField, rfl, hh, hc⟩

/-- the checksum field sent as a full 2-byte Unsigned16 (TLF 0x63) -/
theorem mk_crc (head : Bytes) (hi lo : UInt8)
    (h : (swap16 (crc16 head)).toNat = hi.toNat * 256 + lo.toNat) :
    EncUnsigned 2 ((swap16 (crc16 head)).toNat : Int) [0x63, hi, lo] := by
  refine ⟨[0x63], [hi, lo], rfl, rfl, by simp, by simp, ?_⟩
  rw [h]
  simp [beNat]

end Sml.Gram
