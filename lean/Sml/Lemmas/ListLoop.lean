import Sml.Lemmas.GhostBound
/-
  C06, the `Vec::push` calls of the list loop (complete.rs:245-254):

  ```
  fn parse_with_tlf(mut input: &'i [u8], tlf: &TypeLengthField) -> ResTy<'i, Self> {
      let mut v = Vec::with_capacity((tlf.len as usize).min(input.len()));
      for _ in 0..tlf.len {
          let (new_input, x) = ListEntry::parse(input)?;
          v.push(x);
          input = new_input;
      }
      Ok((input, v))
  }
  ```

  The ghost model (`Model/AllocGhost.lean`) records the `with_capacity` request, and
  `Sml.C06.entries_bound` bounds the number of entries of a list that parses SUCCESSFULLY.  Nothing
  there speaks about the `v.push(x)` calls executed before a FAILING `ListEntry::parse`.  Here the
  loop is transcribed with its accumulator `v` (`listLoop`): the exit state records the vector at
  the moment the function returns (in the error case: the vector that is dropped) and whether some
  `v.push` found `v.len() ≥ cap`, i.e. could have re-allocated.
-/
namespace Sml.C06
open Sml

/-- A successfully parsed list entry consumes at least 8 bytes of the input (in particular ≥ 1). -/
theorem entry_consumes (input : Bytes) (x : ListEntry) (rest : Bytes)
    (h : parseListEntry input = .ok (x, rest)) : rest.length + 8 ≤ input.length :=
  (adv_parseListEntry8.ok h).length_le

theorem entry_consumes_one (input : Bytes) (x : ListEntry) (rest : Bytes)
    (h : parseListEntry input = .ok (x, rest)) : rest.length + 1 ≤ input.length := by
  have := entry_consumes input x rest h; omega

/-- state of `List::parse_with_tlf` when it returns -/
structure LoopExit where
  /-- the value returned -/
  res : PRes (List ListEntry)
  /-- the vector `v` at that moment (returned inside `Ok`, dropped on `Err`); it started empty and
      only `push` modifies it, so `v.length` is the number of `v.push(x)` calls executed -/
  v : List ListEntry
  /-- some `v.push(x)` was executed with `v.len() ≥ cap` (only then may `Vec::push` re-allocate:
      `Vec::with_capacity(cap)` guarantees `capacity() ≥ cap`) -/
  grew : Bool

/-- `for _ in 0..n { let (new_input, x) = ListEntry::parse(input)?; v.push(x); input = new_input; }
    Ok((input, v))` with the capacity `cap` requested before the loop -/
def listLoop (cap : Nat) : Nat → Bytes → List ListEntry → Bool → LoopExit
  | 0, input, v, g => ⟨.ok (v, input), v, g⟩                 -- Ok((input, v))
  | n + 1, input, v, g =>
    match parseListEntry input with                           -- ListEntry::parse(input)
    | .error e => ⟨.error e, v, g⟩                            -- `?`: return Err(e), `v` is dropped
    | .ok (x, newInput) =>
      listLoop cap n newInput (v ++ [x]) (g || decide (cap ≤ v.length))   -- v.push(x); input = ..

/-- `List::parse_with_tlf` (complete.rs:245-254): request, then the loop on the empty vector -/
def parseListWithLit (input : Bytes) (tlf : Tlf) : LoopExit :=
  listLoop (listCapRequest tlf.len input) tlf.len input [] false

/-- result and vector of the loop are those of the partial run `entriesRun`, whatever capacity
    was requested -/
theorem listLoop_eq (cap n : Nat) : ∀ (i : Bytes) (v : List ListEntry) (g : Bool),
    (listLoop cap n i v g).res = outRes (v ++ (entriesRun n i).1) (entriesRun n i).2 ∧
    (listLoop cap n i v g).v = v ++ (entriesRun n i).1 := by
  induction n with
  | zero => intro i v g; simp [listLoop, entriesRun]
  | succ n ih =>
    intro i v g
    simp only [listLoop, entriesRun]
    rcases parseListEntry i with e | ⟨x, r⟩
    · simp
    · simp [ih]

theorem listLoop_res (cap n : Nat) (input : Bytes) :
    (listLoop cap n input [] false).res = parseEntries n input := by
  rw [(listLoop_eq _ _ _ _ _).1, parseEntries_eq_run, List.nil_append]

/-- ... and so `parseListWithLit` returns what the ghost model `parseListWithG` returns and
    requests what it records -/
theorem parseListWithLit_res (input : Bytes) (tlf : Tlf) :
    (parseListWithLit input tlf).res = (parseListWithG input tlf).1 ∧
    (parseListWithG input tlf).2 = [listCapRequest tlf.len input] :=
  ⟨listLoop_res _ _ _, rfl⟩

/-- on success the vector at exit is the returned list -/
theorem listLoop_ok_v (cap n : Nat) (input : Bytes) (xs : List ListEntry) (r : Bytes)
    (h : (listLoop cap n input [] false).res = .ok (xs, r)) :
    (listLoop cap n input [] false).v = xs := by
  rw [(listLoop_eq _ _ _ _ _).1] at h
  rw [(listLoop_eq _ _ _ _ _).2]
  cases h2 : (entriesRun n input).2 <;> rw [h2] at h <;> cases h
  rfl

/-- Characterisation of a failing list loop in terms of the model alone: if `parseEntries n input`
    fails with `e`, then a shorter loop of some `k < n` iterations succeeds, the next entry fails
    with `e`, and the `k` entries of the shorter loop are exactly what had been pushed (each
    consumed at least 8 bytes). -/
theorem listLoop_error_char (cap n : Nat) (input : Bytes) (e : PErr)
    (h : parseEntries n input = .error e) :
    ∃ (k : Nat) (es : List ListEntry) (r : Bytes),
      k < n ∧ parseEntries k input = .ok (es, r) ∧ parseListEntry r = .error e ∧
      (listLoop cap n input [] false).v = es ∧ es.length = k ∧ r.length + 8 * k ≤ input.length := by
  rw [parseEntries_eq_run] at h
  rcases he : (entriesRun n input).2 with e' | r' <;> rw [he] at h <;> cases h
  obtain ⟨r, h2, ⟨hr, _⟩ | ⟨e', he', h1, h3⟩⟩ := entriesRun_char n input
  · rw [he] at hr
    cases hr
  rw [he] at he'
  cases he'
  have h4 := ((adv_parseEntries8 _).ok h2).length_le
  exact ⟨_, _, r, h1, h2, h3, by rw [(listLoop_eq _ _ _ _ _).2, List.nil_append], rfl, by omega⟩

/-- In EVERY case (the list parses, or `ListEntry::parse` fails after some entries) the number of
    `v.push(x)` calls executed by `List::parse_with_tlf` is at most the element count passed to
    `Vec::with_capacity`, `min(declared, |input|)`: at most `declared` iterations run and every
    pushed entry consumed at least one (really eight) bytes of `input`. -/
theorem pushes_le_request (input : Bytes) (tlf : Tlf) :
    (parseListWithLit input tlf).v.length ≤ listCapRequest tlf.len input := by
  have h1 := entriesRun_length_le tlf.len input
  have h2 := entriesRun_consumed tlf.len input
  simp only [parseListWithLit, (listLoop_eq _ _ _ _ _).2, List.nil_append, listCapRequest]
  omega

/-- sharper: eight times the number of pushes is at most the input length -/
theorem pushes_le_eighth (input : Bytes) (tlf : Tlf) :
    8 * (parseListWithLit input tlf).v.length ≤ input.length ∧
    (parseListWithLit input tlf).v.length ≤ tlf.len := by
  have h1 := entriesRun_length_le tlf.len input
  have h2 := entriesRun_consumed tlf.len input
  simp only [parseListWithLit, (listLoop_eq _ _ _ _ _).2, List.nil_append]
  omega

theorem listLoop_no_regrow (cap : Nat) (n : Nat) : ∀ (input : Bytes) (v : List ListEntry),
    v.length + min n input.length ≤ cap → (listLoop cap n input v false).grew = false := by
  induction n with
  | zero => intro input v _; rfl
  | succ n ih =>
    intro input v h
    simp only [listLoop]
    cases hp : parseListEntry input with
    | error e => rfl
    | ok p =>
      obtain ⟨x, r1⟩ := p
      have hx := entry_consumes input x r1 hp
      have hlt : ¬ cap ≤ v.length := by omega
      simp only [hlt, decide_false, Bool.or_false]
      apply ih
      simp only [List.length_append, List.length_singleton]
      omega

/-- No `v.push(x)` of the loop - in a successful or a failing parse - is executed with
    `v.len()` at or above the requested capacity: the vector never re-allocates. -/
theorem no_regrow (input : Bytes) (tlf : Tlf) : (parseListWithLit input tlf).grew = false :=
  listLoop_no_regrow _ _ _ _ (by simp [listCapRequest])

/-- one complete list entry (10 bytes) -/
def entryA : Bytes := [0x77, 0x02, 0xbb, 0x01, 0x01, 0x01, 0x01, 0x62, 0x05, 0x01]

-- the entry parses and leaves the rest
example : (parseListEntry (entryA ++ [0xaa])).toOption.map (·.2) = some [0xaa] := by decide +kernel

-- FAILURE after two pushes: declared 3 entries, two are there, then garbage.
-- requested min(3, 22) = 3, pushed 2, no regrowth, result is an error
example : (parseListWithLit (entryA ++ entryA ++ [0xff, 0xff]) ⟨.listOf, 3⟩).v.length = 2 ∧
    listCapRequest 3 (entryA ++ entryA ++ [0xff, 0xff]) = 3 ∧
    (parseListWithLit (entryA ++ entryA ++ [0xff, 0xff]) ⟨.listOf, 3⟩).grew = false ∧
    (parseListWithLit (entryA ++ entryA ++ [0xff, 0xff]) ⟨.listOf, 3⟩).res.toOption.isNone = true := by
  decide +kernel

-- FAILURE with a huge declared count: requested min(2^32-1, 13) = 13, pushed 1
example : (parseListWithLit (entryA ++ [0x77, 0x02, 0xbb]) ⟨.listOf, 4294967295⟩).v.length = 1 ∧
    listCapRequest 4294967295 (entryA ++ [0x77, 0x02, 0xbb]) = 13 := by
  decide +kernel

-- SUCCESS, and the bound is attained: declared 2, requested 2, pushed 2
example : (parseListWithLit (entryA ++ entryA ++ [0x01]) ⟨.listOf, 2⟩).v.length = 2 ∧
    listCapRequest 2 (entryA ++ entryA ++ [0x01]) = 2 ∧
    (parseListWithLit (entryA ++ entryA ++ [0x01]) ⟨.listOf, 2⟩).res.toOption.map (·.2) =
      some [0x01] := by
  decide +kernel

-- the `grew` flag is not constantly false: with a smaller request the second push would re-allocate
example : (listLoop 1 2 (entryA ++ entryA) [] false).grew = true := by decide +kernel

end Sml.C06
