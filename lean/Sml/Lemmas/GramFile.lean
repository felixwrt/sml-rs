import Sml.Lemmas.GramRecords
/-
  Grammar ↔ parser correspondence for SML_Message (envelope, checksum, end marker) and the file;
  consequences on the grammar level (determinism, chunking).
-/
namespace Sml.Gram
open Sml Sml.Spec

def MsgHeaderEnc (v : Bytes × Int × Int) (e : Bytes) : Prop :=
  ∃ tl b1 b2 b3, e = tl ++ b1 ++ b2 ++ b3 ∧ EncTlf ⟨.listOf, 6⟩ tl ∧
    EncOctet v.1 b1 ∧ EncUnsigned 1 v.2.1 b2 ∧ EncUnsigned 1 v.2.2 b3

set_option smartUnfolding false in
theorem parses_msgHeader : Parses parseMsgHeader MsgHeaderEnc := by
  refine (parses_tlf.bind fun t => Parses.ite (t.ty ≠ .listOf ∨ t.len ≠ 6)
    (fun _ => parses_fail fun _ => rfl) fun _ =>
    (parses_octet.bind fun a1 => (parses_unsigned 1).bind fun a2 =>
      (parses_unsigned 1).bind fun a3 => Parses.pure (a1, a2, a3))).congr fun v bs => ⟨?_, ?_⟩
  · rintro ⟨⟨ty, len⟩, tl, _, rfl, ht, ⟨_, hf⟩ | ⟨hc, _, b1, _, rfl, h1, _, b2, _, rfl, h2,
      _, b3, _, rfl, h3, rfl, rfl⟩⟩
    · exact hf.elim
    · simp only [ne_eq, not_or, Decidable.not_not] at hc
      obtain ⟨rfl, rfl⟩ := hc
      exact ⟨tl, b1, b2, b3, by simp, ht, h1, h2, h3⟩
  · obtain ⟨a1, a2, a3⟩ := v
    rintro ⟨tl, b1, b2, b3, rfl, ht, h1, h2, h3⟩
    exact ⟨_, tl, b1 ++ (b2 ++ (b3 ++ [])), by simp, ht, .inr ⟨by simp, _, b1, _, rfl, h1,
      _, b2, _, rfl, h2, _, b3, [], rfl, h3, rfl, rfl⟩⟩

theorem parses_endOfMsg : Parses parseEndOfMsg (fun _ bs => bs = [0x00]) where
  complete _ e rest h := by subst h; rfl
  sound i u r h := by
    cases i with
    | nil => cases h
    | cons b i =>
      simp only [parseEndOfMsg, takeByte] at h
      split at h
      · cases h
      · rename_i hb
        simp only [Except.ok.injEq, Prod.mk.injEq] at h
        rw [Decidable.not_not.1 hb, ← h.2]
        exact ⟨[0x00], rfl, rfl⟩

set_option smartUnfolding false in
/-- after the checksummed part `head` the trailer is a chain whose checksum test compares with a
    constant -/
theorem parses_trailer (head : Bytes) :
    Parses (fun i => parseMsgTrailer (head ++ i) i) (fun _ bs => ∃ crcField,
      bs = crcField ++ [0x00] ∧ EncUnsigned 2 ((swap16 (crc16 head)).toNat : Int) crcField) := by
  have hl : ∀ i : Bytes, ¬ (head ++ i).length < i.length := fun i => by
    simp only [List.length_append]; omega
  have htake : ∀ i : Bytes, (head ++ i).take ((head ++ i).length - i.length) = head := fun i => by
    rw [List.length_append, Nat.add_sub_cancel]
    exact List.take_left' rfl
  simp only [parseMsgTrailer, htake, if_neg (hl _)]
  refine ((parses_unsigned 2).bind fun crc => parses_endOfMsg.bind fun _ =>
    Parses.ite (((swap16 (crc16 head)).toNat : Int) ≠ crc) (fun _ => parses_fail fun _ => rfl)
      fun _ => Parses.pure ()).congr fun u bs => ⟨?_, ?_⟩
  · rintro ⟨crc, crcField, _, rfl, hc, _, _, _, rfl, rfl, ⟨_, hf⟩ | ⟨hd, _, rfl⟩⟩
    · exact hf.elim
    · rw [← Decidable.not_not.1 hd] at hc
      exact ⟨crcField, by simp, hc⟩
  · rintro ⟨crcField, rfl, hc⟩
    exact ⟨_, crcField, [0x00] ++ [], by simp, hc, (), [0x00], [], rfl, rfl,
      .inr ⟨by simp, rfl, rfl⟩⟩

theorem parses_message : Parses parseMessage EncMessage := by
  constructor
  · rintro m e rest ⟨head, crcField, rfl, ⟨tl, b1, b2, b3, b4, rfl, ht, h1, h2, h3, h4⟩, hcrc⟩
    have chdr := fun rest => parses_msgHeader.complete
      (m.transactionId, m.groupNo, m.abortOnError) (tl ++ b1 ++ b2 ++ b3) rest
      ⟨tl, b1, b2, b3, rfl, ht, h1, h2, h3⟩
    have cbody := fun rest => parses_messageBody.complete _ _ rest h4
    have ctrl := (parses_trailer (tl ++ b1 ++ b2 ++ b3 ++ b4)).complete () _ rest
      ⟨crcField, rfl, hcrc⟩
    simp only [List.append_assoc] at chdr ctrl ⊢
    simp only [parseMessage, chdr, cbody, ctrl]
  · intro i m r h
    simp only [parseMessage] at h
    split at h
    · cases h
    rename_i hhdr
    obtain ⟨hd, rfl, hh⟩ := parses_msgHeader.sound _ _ _ hhdr
    split at h
    · cases h
    rename_i hbody
    obtain ⟨b4, rfl, h4⟩ := parses_messageBody.sound _ _ _ hbody
    split at h
    · cases h
    · rename_i heq
      rw [← List.append_assoc] at heq
      obtain ⟨_, rfl, crcField, rfl, hcrc⟩ := (parses_trailer _).sound _ _ _ heq
      simp only [Except.ok.injEq, Prod.mk.injEq] at h
      obtain ⟨rfl, rfl⟩ := h
      obtain ⟨tl, b1, b2, b3, rfl, ht, h1, h2, h3⟩ := hh
      exact ⟨tl ++ b1 ++ b2 ++ b3 ++ b4 ++ crcField ++ [0x00], by simp,
        tl ++ b1 ++ b2 ++ b3 ++ b4, crcField, rfl,
        ⟨tl, b1, b2, b3, b4, rfl, ht, h1, h2, h3, h4⟩, hcrc⟩

theorem encMessage_length {m : Message} {e : Bytes} (h : EncMessage m e) : 7 ≤ e.length := by
  have := (adv_parseMessage.ok (parses_message.complete m e [] h)).length_le
  simpa using this

theorem encMessage_nonempty {m : Message} {e : Bytes} (h : EncMessage m e) : e ≠ [] :=
  fun he => absurd (he ▸ encMessage_length h) (by decide)

/-- a non-empty sequence starts with an encoding of the message that `parseMessage` returns -/
theorem encSeq_message_cons {ms : List Message} {x : Bytes} (h : EncSeq EncMessage ms x)
    (hx : x ≠ []) : ∃ m ms' e es, ms = m :: ms' ∧ x = e ++ es ∧
      parseMessage x = .ok (m, es) ∧ EncSeq EncMessage ms' es := by
  cases h with
  | nil => exact absurd rfl hx
  | cons hm hms => exact ⟨_, _, _, _, rfl, rfl, parses_message.complete _ _ _ hm, hms⟩

theorem parseMessages_iff (fuel : Nat) (x : Bytes) (hx : x.length ≤ fuel) :
    ∀ ms, parseMessages fuel x = .ok ms ↔ EncSeq EncMessage ms x := by
  refine parseMessages_induction
    (P := fun x res _ => ∀ ms, res = .ok ms ↔ EncSeq EncMessage ms x)
    (fun ms => ?_) (fun b i err hp ms => ⟨nofun, fun h => ?_⟩)
    (fun b i m r res _ hp ih ms => ⟨fun h => ?_, fun h => ?_⟩) fuel x hx
  · rw [Except.ok.injEq, eq_comm]
    exact ⟨fun h => h ▸ .nil,
      fun h => (parses_seq_nonempty (fun _ _ => encMessage_nonempty) h).2 rfl⟩
  · obtain ⟨_, _, _, _, _, _, hp', _⟩ := encSeq_message_cons h (List.cons_ne_nil b i)
    rw [hp] at hp'
    cases hp'
  · rcases res with e | ms' <;> cases h
    obtain ⟨e, he, hm⟩ := parses_message.sound _ _ _ hp
    rw [he]
    exact .cons hm ((ih ms').1 rfl)
  · obtain ⟨m', ms', _, es, rfl, _, hp', hms⟩ := encSeq_message_cons h (List.cons_ne_nil b i)
    rw [hp] at hp'
    obtain ⟨rfl, rfl⟩ := Prod.mk.inj (Except.ok.inj hp')
    rw [(ih ms').2 hms]
    rfl

theorem parseFile_iff (x : Bytes) (F : File) : parseFile x = .ok F ↔ EncFile F x :=
  parseFile_ok.trans (parseMessages_iff x.length x (Nat.le_refl _) F.messages)

theorem encSeq_chunks {α : Type} {E : α → Bytes → Prop} {xs : List α} {bs : Bytes}
    (h : EncSeq E xs bs) : ∃ chunks : List Bytes, bs = chunks.flatten ∧
      chunks.length = xs.length ∧ ∀ p ∈ xs.zip chunks, E p.1 p.2 := by
  induction h with
  | nil => exact ⟨[], rfl, rfl, by simp⟩
  | cons hx _ ih =>
    obtain ⟨chunks, rfl, hl, hf⟩ := ih
    refine ⟨_ :: chunks, rfl, by simp [hl], ?_⟩
    intro p hp
    simp only [List.zip_cons_cons, List.mem_cons] at hp
    rcases hp with rfl | hp
    · exact hx
    · exact hf p hp

/-- the messages of a file are determined one after the other: if `x` is a file and `x ++ t` is a
    file too, then `t` is a file and the messages of `x ++ t` are those of `x` followed by those
    of `t` -/
theorem encSeq_message_prefix {ms : List Message} {x : Bytes} (h : EncSeq EncMessage ms x) :
    ∀ (t y : Bytes) (ms' : List Message), y = x ++ t → EncSeq EncMessage ms' y →
      ∃ g, ms' = ms ++ g ∧ EncSeq EncMessage g t := by
  induction h with
  | nil =>
    intro t y ms' hy h'
    subst hy
    exact ⟨ms', rfl, h'⟩
  | cons hx hxs ih =>
    rename_i m ms e es
    intro t y ms' hy h'
    cases h' with
    | nil =>
      have := encMessage_nonempty hx
      simp [this] at hy
    | cons hx' hxs' =>
      rename_i m' ms'' e' es'
      have p1 := parses_message.complete m e (es ++ t) hx
      have p2 := parses_message.complete m' e' es' hx'
      rw [hy, List.append_assoc, p1] at p2
      simp only [Except.ok.injEq, Prod.mk.injEq] at p2
      obtain ⟨rfl, rfl⟩ := p2
      obtain ⟨g, rfl, hg⟩ := ih t _ ms'' rfl hxs'
      exact ⟨g, rfl, hg⟩

end Sml.Gram
