import Sml.Lemmas.DecData
import Sml.Lemmas.DecLook
import Sml.Lemmas.DecRun
/-
  The state invariant `Dec.Inv` of the push decoder: it holds initially, `_push_byte` preserves it
  and never panics under it (`pushByte_good`; when it answers out-of-memory is `DecCap`'s subject);
  `Post` says what state each answer leaves (no hypothesis on the state).
  Then the same for `Decoder::push_byte` (`push_eq`: its answer is `resOut` of `_push_byte`'s),
  `finalize`, `reset`, histories (`run`) and byte strings (`pushAll`).
  The walks over the decision tree (`*_good`, `post_*`) go along the `if`s of the model function
  in its order (`prop_ite`).
  `_push_byte` has no single closed form; the file begins with its equation per control state
  (`pushByte_normal`, `_escChars`, `_escPayload`, `_done`), for the modules that follow one state
  (`DecWindow`, `DecRound`).
-/
namespace Sml

open C07

namespace Dec

theorem pushByte_normal {d : Dec} (h : d.st = .normal) (b : UInt8) :
    d.pushByte b =
      (let d := { d with raw := d.raw + 1, crc := crcByte d.crc b }
       if b = 0x1b then ({ d with st := .escChars 1 }, .more)
       else afterPush d (d.pushList [b]) fun d => (d, .more)) := by
  unfold pushByte
  simp [h, pushData_eq_pushList]

theorem pushByte_escChars {d : Dec} {n : Nat} (h : d.st = .escChars n) (b : UInt8) :
    d.pushByte b =
      (let d := { d with raw := d.raw + 1, crc := crcByte d.crc b }
       if b ≠ 0x1b then
         afterPush d (d.pushList (List.replicate n 0x1b ++ [b])) fun d' =>
           ({ d' with st := .normal }, .more)
       else if n = 3 then ({ d with st := .escPayload 0 Quad.zero }, .more)
       else if n + 1 > 255 then (d, .panic "decode.rs:233 overflow")
       else ({ d with st := .escChars (n + 1) }, .more)) := by
  unfold pushByte
  simp [h, afterPush_rep_data]

theorem pushByte_escPayload {d : Dec} {step : Nat} {q : Quad} (h : d.st = .escPayload step q)
    (b : UInt8) :
    d.pushByte b =
      (let d := { d with raw := d.raw + 1 }
       match q.set step b with
       | none => (d, .panic "decode.rs:237 index out of bounds")
       | some q =>
         if step < 3 then ({ d with st := .escPayload (step + 1) q }, .more)
         else pushEscComplete d q) := by
  cases d with
  | mk raw crc st zc buf =>
    simp only at h
    subst h
    rfl

theorem pushByte_done {d : Dec} (h : d.st = .done) (b : UInt8) :
    d.pushByte b = (d.reset).1.pushByte b := by
  conv => lhs; unfold pushByte
  conv => rhs; unfold pushByte
  simp [h, reset]

/-- the third conjunct is for the window invariant (`DecWindow`: an end sequence keeps its `0x1a`) -/
theorem quad_set_take {step : Nat} (h : step ≤ 3) (q : Quad) (x : UInt8) :
    ∃ q', q.set step x = some q' ∧ q'.toList.take (step + 1) = q.toList.take step ++ [x] ∧
      (1 ≤ step → q'.a = q.a) := by
  have : step = 0 ∨ step = 1 ∨ step = 2 ∨ step = 3 := by omega
  rcases this with rfl | rfl | rfl | rfl <;> exact ⟨_, rfl, rfl, fun h => by first | rfl | omega⟩

/-- The invariant of the push decoder.  `raw` counts the bytes of the current (candidate)
transmission, so everything stored (`buf.len`), cached (`zc`) or pending in an escape sequence is
bounded by it.  8 = the start sequence; 12 = start sequence + the four 0x1b that open an escape; 16 =
start sequence + the eight bytes of the end sequence. -/
def Inv (d : Dec) : Prop :=
  d.zc ≤ 4 ∧ d.buf.WF ∧
  match d.st with
  | .look disc init => init ≤ 7 ∧ d.zc = 0 ∧ d.buf.rdata = [] ∧ d.raw = disc + init
  | .normal => d.buf.len + d.zc + 8 ≤ d.raw
  | .escChars n => 1 ≤ n ∧ n ≤ 3 ∧ d.buf.len + d.zc + n + 8 ≤ d.raw
  | .escPayload step _ => step ≤ 3 ∧ d.buf.len + d.zc + step + 12 ≤ d.raw
  | .done => d.buf.len + 16 ≤ d.raw

theorem Inv.zc_le {d : Dec} (h : Inv d) : d.zc ≤ 4 := h.1
theorem Inv.wf {d : Dec} (h : Inv d) : d.buf.WF := h.2.1

theorem Inv.look {d : Dec} (h : Inv d) {disc init : Nat} (hs : d.st = .look disc init) :
    init ≤ 7 ∧ d.zc = 0 ∧ d.buf.rdata = [] ∧ d.raw = disc + init := by
  have := h.2.2; rw [hs] at this; exact this

theorem Inv.normal {d : Dec} (h : Inv d) (hs : d.st = .normal) :
    d.buf.len + d.zc + 8 ≤ d.raw := by
  have := h.2.2; rw [hs] at this; exact this

theorem Inv.escChars {d : Dec} (h : Inv d) {n : Nat} (hs : d.st = .escChars n) :
    1 ≤ n ∧ n ≤ 3 ∧ d.buf.len + d.zc + n + 8 ≤ d.raw := by
  have := h.2.2; rw [hs] at this; exact this

theorem Inv.escPayload {d : Dec} (h : Inv d) {step : Nat} {q : Quad}
    (hs : d.st = .escPayload step q) : step ≤ 3 ∧ d.buf.len + d.zc + step + 12 ≤ d.raw := by
  have := h.2.2; rw [hs] at this; exact this

theorem Inv.done {d : Dec} (h : Inv d) (hs : d.st = .done) : d.buf.len + 16 ≤ d.raw := by
  have := h.2.2; rw [hs] at this; exact this

theorem Inv.len_add_8_le {d : Dec} (h : Inv d) (hs : ∀ disc init, d.st ≠ .look disc init) :
    d.buf.len + d.zc + 8 ≤ d.raw := by
  obtain ⟨hz, _, hst⟩ := h
  rcases d with ⟨raw, crc, st, zc, buf⟩
  cases st with
  | look disc init => exact absurd rfl (hs disc init)
  | _ => simp only at hz hst ⊢; omega

theorem Inv.raw_ge {d : Dec} (h : Inv d) (hs : ∀ disc init, d.st ≠ .look disc init) :
    8 ≤ d.raw := Nat.le_trans (Nat.le_add_left ..) (h.len_add_8_le hs)

theorem Inv.len_le_raw {d : Dec} (h : Inv d) : d.buf.len + d.zc ≤ d.raw := by
  cases hst : d.st with
  | look disc init => have := h.look hst; simp [Buf.len, this.2.1, this.2.2.1]
  | _ => exact Nat.le_trans (Nat.le_add_right _ 8) (h.len_add_8_le (by simp [hst]))

theorem inv_fresh (cap : Option Nat) : Inv (fresh cap) := by
  refine ⟨Nat.zero_le _, Buf.wf_new cap, ?_⟩
  simp [fresh, Buf.new]

theorem inv_reset (d : Dec) : Inv d.reset.1 := by
  refine ⟨Nat.zero_le _, Buf.wf_clear _, ?_⟩
  simp [reset, Buf.clear]

/-- the result of `_push_byte` is acceptable: the new state satisfies the invariant and the
outcome is not a panic; the buffer capacity is `c`, and `raw` is at most `B` -/
def Good (c : Option Nat) (B : Nat) (x : Dec × Res) : Prop :=
  Inv x.1 ∧ x.1.buf.cap = c ∧ x.1.raw ≤ B ∧ ∀ s, x.2 ≠ .panic s

theorem Good.mono {c : Option Nat} {B B' : Nat} {x : Dec × Res} (h : Good c B x) (hB : B ≤ B') :
    Good c B' x := ⟨h.1, h.2.1, Nat.le_trans h.2.2.1 hB, h.2.2.2⟩

theorem Good.more {d : Dec} (h : Inv d) : Good d.buf.cap d.raw (d, .more) :=
  ⟨h, rfl, Nat.le_refl _, nofun⟩

theorem good_reset (d : Dec) (B : Nat) (e : DecErr) : Good d.buf.cap B (d.reset.1, .err e) :=
  ⟨inv_reset d, rfl, Nat.zero_le _, nofun⟩

theorem afterPush_pushList_good {c : Option Nat} {B : Nat} {d0 d : Dec} {l : List UInt8}
    {k : Dec → Dec × Res} (hwf : d.buf.WF) (h0 : d0.buf.cap = c)
    (hk : (d.dataSteps l).buf.WF → Good c B (k (d.dataSteps l))) :
    Good c B (afterPush d0 (d.pushList l) k) := by
  rw [pushList_eq l hwf]
  by_cases h : (d.dataSteps l).buf.WF
  · rw [if_pos h]; exact hk h
  · rw [if_neg h]; exact h0 ▸ good_reset d0 B .oom

theorem pushLook_good {d : Dec} {disc init : Nat} (b : UInt8) (hz : d.zc = 0)
    (hwf : d.buf.WF) (hr : d.buf.rdata = []) (hi : init ≤ 7) (hraw : d.raw = disc + init + 1) :
    Good d.buf.cap d.raw (pushLook d disc init b) := by
  have hd := Resync.delta_le init b
  rw [pushLook_eq, if_neg (by omega)]
  by_cases h8 : Resync.delta init b = 8
  · rw [if_pos h8]
    exact ⟨⟨by simp [hz], hwf, by simp [Buf.len, hr, hz]⟩, rfl, by simp only; omega,
      fun _ => by split <;> nofun⟩
  · rw [if_neg h8]
    exact Good.more ⟨by simp [hz], hwf, by simp only; exact ⟨by omega, hz, hr, by omega⟩⟩

theorem pushEnd_good {d : Dec} (q : Quad) (hwf : d.buf.WF)
    (hlen : d.buf.len + d.zc + 16 ≤ d.raw) : Good d.buf.cap d.raw (pushEnd d q) :=
  prop_ite (Good _ _) (fun _ => good_reset _ _ _) fun hbad => by
    simp only [Bool.or_eq_true, not_or, decide_eq_true_eq] at hbad
    have hpad : q.b.toNat ≤ d.zc := by have := hbad.2; omega
    refine prop_ite (Good _ _) (fun hlt => absurd (show d.zc < q.b.toNat from hlt) (by omega))
      fun _ => ?_
    show Good _ _ (match flush _ with | none => _ | some d => _)
    rw [flush_eq (d := { d with crc := crcInit, zc := d.zc - q.b.toNat }) hwf]
    by_cases hroom : ({ d with crc := crcInit, zc := d.zc - q.b.toNat } : Dec).room (d.zc - q.b.toNat)
    · simp only [hroom, if_true]
      refine ⟨⟨by simp, wf_setBuf_of_room hroom 0 (by simp [Buf.len]; omega), ?_⟩, rfl,
        Nat.le_refl _, nofun⟩
      simp only [setBuf_len, List.length_append, List.length_replicate]
      simp only [Buf.len] at hlen
      show d.zc - q.b.toNat + d.buf.rdata.length + 16 ≤ d.raw
      omega
    · simp only [hroom, if_false]
      exact good_reset _ _ _

theorem afterPush_data_good {d : Dec} {l : List UInt8} {s : DState} (hz : d.zc ≤ 4)
    (hwf : d.buf.WF)
    (hs : ∀ d' : Dec, d'.zc ≤ 4 → d'.buf.WF → d'.raw = d.raw →
      d'.buf.len + d'.zc = d.buf.len + d.zc + l.length → Inv { d' with st := s }) :
    Good d.buf.cap d.raw
      (afterPush d (d.pushList l) fun d' => ({ d' with st := s }, .more)) := by
  refine afterPush_pushList_good hwf rfl fun hwf' => ?_
  have g := grow_dataSteps l d
  exact ⟨hs _ (g.zc hz) hwf' g.raw g.len, g.cap, Nat.le_of_eq g.raw, nofun⟩

theorem pushEscComplete_good {d : Dec} (q : Quad) (hz : d.zc ≤ 4) (hwf : d.buf.WF)
    (hlen : d.buf.len + d.zc + 16 ≤ d.raw) : Good d.buf.cap d.raw (pushEscComplete d q) := by
  refine prop_ite (Good _ _) (fun _ => ?_) fun _ => prop_ite (Good _ _) (fun _ => ?_) fun _ =>
    prop_ite (Good _ _) (fun _ => pushEnd_good q hwf hlen) fun _ =>
    prop_ite (Good _ _) (fun hk => ?_) fun _ => good_reset _ _ _
  · -- the literal escape: four bytes of data
    refine afterPush_data_good (d := { d with crc := _ }) hz hwf
      fun d' hz' hwf' hr hl => ⟨hz', hwf', ?_⟩
    simp only [Quad.toList, List.length_cons, List.length_nil] at hr hl ⊢
    omega
  · -- a start sequence inside a transmission
    refine prop_ite (Good _ _) (fun h8 => absurd h8 (by omega)) fun _ => ?_
    exact ⟨⟨Nat.zero_le _, Buf.wf_clear _, by simp [Buf.clear, Buf.len]⟩, rfl,
      by show 8 ≤ d.raw; omega, nofun⟩
  · -- re-alignment: `k` bytes 0x1b are data
    have hk0 := hk.1
    dsimp only
    rw [pushRep_eq_pushList]
    refine afterPush_data_good (d := { d with crc := _ }) hz hwf
      fun d' hz' hwf' hr hl => ⟨hz', hwf', ?_⟩
    simp only [List.length_replicate] at hr hl ⊢
    omega

/-- `B = raw + 1`: the byte just counted -/
theorem pushByte_good {d : Dec} (h : Inv d) (b : UInt8) :
    Good d.buf.cap (d.raw + 1) (d.pushByte b) := by
  obtain ⟨hz, hwf, hst⟩ := h
  rcases d with ⟨raw, crc, st, zc, buf⟩
  simp only at hz hwf hst
  cases st with
  | look disc init =>
    simp only at hst
    simp only [pushByte]
    exact pushLook_good b hst.2.1 hwf hst.2.2.1 hst.1 (by simp [hst.2.2.2])
  | done =>
    simp only [pushByte, reset]
    exact (pushLook_good (disc := 0) (init := 0) b rfl (Buf.wf_clear _) rfl (by omega) rfl).mono
      (by simp)
  | normal =>
    simp only at hst
    rw [pushByte_normal rfl]
    refine prop_ite (Good _ _) (fun _ => Good.more ⟨hz, hwf, by simp only; omega⟩) fun _ => ?_
    refine afterPush_pushList_good (by exact hwf) rfl fun hwf' => ?_
    have g := grow_dataSteps [b] ⟨raw + 1, crcByte crc b, .normal, zc, buf⟩
    refine ⟨⟨g.zc hz, hwf', ?_⟩, g.cap, Nat.le_of_eq g.raw, nofun⟩
    have h1 := g.len
    have h2 := g.raw
    simp only [List.length_cons, List.length_nil] at h1 h2
    rw [g.st]
    simp only
    omega
  | escChars n =>
    simp only at hst
    rw [pushByte_escChars rfl]
    refine prop_ite (Good _ _) (fun _ => ?_) fun _ => prop_ite (Good _ _)
      (fun _ => Good.more ⟨hz, hwf, by simp only; omega⟩) fun _ => prop_ite (Good _ _)
      (fun h255 => absurd h255 (by omega)) fun _ => Good.more ⟨hz, hwf, by simp only; omega⟩
    -- the pending 0x1b and the byte are data
    refine afterPush_data_good (d := ⟨_, _, .escChars n, _, _⟩) hz hwf
      fun d' hz' hwf' hr hl => ⟨hz', hwf', ?_⟩
    simp only [List.length_append, List.length_replicate, List.length_cons, List.length_nil]
      at hr hl ⊢
    omega
  | escPayload step q =>
    simp only at hst
    simp only [pushByte]
    obtain ⟨q', hq', _, _⟩ := quad_set_take hst.1 q b
    simp only [hq']
    exact prop_ite (Good _ _) (fun _ => Good.more ⟨hz, hwf, by simp only; omega⟩)
      fun _ => pushEscComplete_good q' hz hwf (by simp only; omega)

/-- the state `reset` leaves behind (up to `crc` and `buf.cap`) -/
def IsReset (d : Dec) : Prop := d.st = .look 0 0 ∧ d.raw = 0 ∧ d.zc = 0 ∧ d.buf.rdata = []

theorem isReset_reset (d : Dec) : IsReset d.reset.1 := ⟨rfl, rfl, rfl, rfl⟩

theorem reset_st (d : Dec) : (d.reset).1.st = .look 0 0 := rfl
theorem reset_raw (d : Dec) : (d.reset).1.raw = 0 := rfl
theorem reset_zc (d : Dec) : (d.reset).1.zc = 0 := rfl
theorem reset_rdata (d : Dec) : (d.reset).1.buf.rdata = [] := rfl

/-- `Ok(true)` is only returned in state `Done`; every error other than `DiscardedBytes` is
returned after a `reset` -/
def Post (x : Dec × Res) : Prop :=
  match x.2 with
  | .ready => x.1.st = .done
  | .err e => (∀ n, e ≠ .discarded n) → IsReset x.1
  | _ => True

theorem post_afterPush (d0 : Dec) (r : PushRes) {k : Dec → Dec × Res} (hk : ∀ d, Post (k d)) :
    Post (afterPush d0 r k) := by
  cases r with
  | ok d => exact hk d
  | oom => exact fun _ => isReset_reset d0
  | panic s => trivial

theorem post_pushLook (d : Dec) (disc init : Nat) (b : UInt8) : Post (pushLook d disc init b) := by
  rw [pushLook_eq]
  refine prop_ite Post (fun _ => trivial) fun _ => prop_ite Post (fun _ => ?_) fun _ => trivial
  by_cases h0 : disc > 0
  · rw [if_pos h0]; exact fun h => absurd rfl (h _)
  · rw [if_neg h0]; trivial

/-- `post_pushEnd`, `post_pushEscComplete`, `post_pushByte` are terms along the `if`s of the model
function (`prop_ite`), in its order; the unifier unfolds the function to find them. -/
theorem post_pushEnd (d : Dec) (q : Quad) : Post (pushEnd d q) :=
  prop_ite Post (fun _ _ => isReset_reset _) fun _ => prop_ite Post (fun _ => trivial) fun _ => by
    show Post (match flush _ with | none => _ | some d => _)
    cases flush _ with
    | none => exact fun _ => isReset_reset _
    | some d => rfl

theorem post_pushEscComplete (d : Dec) (q : Quad) : Post (pushEscComplete d q) :=
  prop_ite Post (fun _ => post_afterPush _ _ fun _ => trivial) fun _ =>
  prop_ite Post (fun _ => prop_ite Post (fun _ => trivial) fun _ h => absurd rfl (h _)) fun _ =>
  prop_ite Post (fun _ => post_pushEnd d q) fun _ =>
  prop_ite Post (fun _ => post_afterPush _ _ fun _ => trivial) fun _ _ => isReset_reset _

theorem post_pushByte (d : Dec) (b : UInt8) : Post (d.pushByte b) := by
  rcases d with ⟨raw, crc, st, zc, buf⟩
  cases st with
  | look disc init => exact post_pushLook _ _ _ _
  | done => exact post_pushLook _ _ _ _
  | normal => exact prop_ite Post (fun _ => trivial) fun _ => post_afterPush _ _ fun _ => trivial
  | escChars n =>
    exact prop_ite Post (fun _ => post_afterPush _ _ fun _ => post_afterPush _ _ fun _ => trivial)
      fun _ => prop_ite Post (fun _ => trivial) fun _ => prop_ite Post (fun _ => trivial) fun _ => trivial
  | escPayload step q =>
    show Post (match q.set step b with | none => _ | some q => _)
    cases q.set step b with
    | none => trivial
    | some q' => exact prop_ite Post (fun _ => trivial) fun _ => post_pushEscComplete _ _

theorem pushByte_ready {d d' : Dec} {b : UInt8} (h : d.pushByte b = (d', .ready)) :
    d'.st = .done := by
  have := post_pushByte d b
  rw [h] at this
  exact this

theorem pushByte_err {d d' : Dec} {b : UInt8} {e : DecErr} (h : d.pushByte b = (d', .err e))
    (he : ∀ n, e ≠ .discarded n) : IsReset d' := by
  have := post_pushByte d b
  rw [h] at this
  exact this he

/-- the answer of `push_byte` for the answer of `_push_byte`, `d'` the state afterwards -/
def resOut (d' : Dec) : Res → Out
  | .more => .none
  | .ready => .msg d'.buf.data
  | .err e => .err e
  | .panic s => .panic s

theorem push_eq (d : Dec) (b : UInt8) :
    d.push b = ((d.pushByte b).1, resOut (d.pushByte b).1 (d.pushByte b).2) := by
  unfold push
  rcases h : d.pushByte b with ⟨d', r⟩
  cases r with
  | ready => simp [resOut, borrowBuf, isDone, pushByte_ready h]
  | _ => rfl

theorem push_fst (d : Dec) (b : UInt8) : (d.push b).1 = (d.pushByte b).1 := by
  rw [push_eq]

theorem push_inv {d : Dec} (h : Inv d) (b : UInt8) : Inv (d.push b).1 := by
  rw [push_fst]; exact (pushByte_good h b).1

theorem push_cap {d : Dec} (h : Inv d) (b : UInt8) : (d.push b).1.buf.cap = d.buf.cap := by
  rw [push_fst]; exact (pushByte_good h b).2.1

theorem pushByte_raw_le {d : Dec} (h : Inv d) (b : UInt8) : (d.pushByte b).1.raw ≤ d.raw + 1 :=
  (pushByte_good h b).2.2.1

theorem pushByte_no_panic {d : Dec} (h : Inv d) (b : UInt8) (s : String) :
    (d.pushByte b).2 ≠ .panic s := (pushByte_good h b).2.2.2 s

theorem push_err_iff {d : Dec} {b : UInt8} {e : DecErr} :
    (d.push b).2 = .err e ↔ (d.pushByte b).2 = .err e := by
  rw [push_eq]; cases (d.pushByte b).2 <;> simp [resOut]

theorem push_panic_iff {d : Dec} {b : UInt8} {s : String} :
    (d.push b).2 = .panic s ↔ (d.pushByte b).2 = .panic s := by
  rw [push_eq]; cases (d.pushByte b).2 <;> simp [resOut]

theorem push_msg_iff {d : Dec} {b : UInt8} {m : List UInt8} :
    (d.push b).2 = .msg m ↔ (d.pushByte b).2 = .ready ∧ (d.pushByte b).1.buf.data = m := by
  rw [push_eq]; cases (d.pushByte b).2 <;> simp [resOut]

theorem push_no_panic {d : Dec} (h : Inv d) (b : UInt8) (s : String) :
    (d.push b).2 ≠ .panic s := fun hc => pushByte_no_panic h b s (push_panic_iff.1 hc)

theorem reset_cap (d : Dec) : d.reset.1.buf.cap = d.buf.cap := rfl
theorem finalize_cap (d : Dec) : d.finalize.1.buf.cap = d.buf.cap := rfl

/-- `Decoder::from_buf(buf)` clears the buffer: whatever it held, the result is a new decoder
over a buffer of that capacity -/
theorem fromBuf_eq_fresh (cap : Option Nat) (r : List UInt8) :
    fromBuf { cap := cap, rdata := r } = fresh cap := rfl

theorem step_inv {d : Dec} (h : Inv d) (op : Op) : Inv (d.step op).1 := by
  cases op with
  | push b => exact push_inv h b
  | fin => exact inv_reset d
  | reset => exact inv_reset d
  | new => exact inv_fresh d.buf.cap
  | fromBuf stale => exact inv_fresh d.buf.cap

theorem step_cap {d : Dec} (h : Inv d) (op : Op) : (d.step op).1.buf.cap = d.buf.cap := by
  cases op with
  | push b => exact push_cap h b
  | fin => rfl
  | reset => rfl
  | new => rfl
  | fromBuf stale => rfl

theorem step_no_panic {d : Dec} (h : Inv d) (op : Op) (s : String) :
    (d.step op).2 ≠ .out (.panic s) := by
  cases op with
  | push b => exact fun hc => push_no_panic h b s (OpOut.out.inj hc)
  | _ => exact nofun

/-- one induction for every property of a history: `P` of the state, `Q` of each answer -/
theorem run_induction {P : Dec → Prop} {Q : OpOut → Prop}
    (hstep : ∀ d op, P d → P (d.step op).1 ∧ Q (d.step op).2) (ops : List Op) :
    ∀ {d : Dec}, P d → P (d.run ops).1 ∧ ∀ o ∈ (d.run ops).2, Q o := by
  induction ops with
  | nil => intro d h; exact ⟨h, fun o ho => by simp [run_nil] at ho⟩
  | cons op ops ih =>
    intro d h
    have hs := hstep d op h
    have := ih hs.1
    rw [run_cons]
    refine ⟨this.1, fun o ho => ?_⟩
    rcases List.mem_cons.1 ho with rfl | ho
    · exact hs.2
    · exact this.2 o ho

theorem run_good (ops : List Op) {d : Dec} (h : Inv d) :
    (Inv (d.run ops).1 ∧ (d.run ops).1.buf.cap = d.buf.cap) ∧
      ∀ o ∈ (d.run ops).2, ∀ s, o ≠ OpOut.out (Out.panic s) :=
  run_induction (P := fun x => Inv x ∧ x.buf.cap = d.buf.cap)
    (fun _ op hx => ⟨⟨step_inv hx.1 op, (step_cap hx.1 op).trans hx.2⟩, step_no_panic hx.1 op⟩)
    ops ⟨h, rfl⟩

theorem run_inv (ops : List Op) {d : Dec} (h : Inv d) : Inv (d.run ops).1 := (run_good ops h).1.1

theorem run_cap (ops : List Op) {d : Dec} (h : Inv d) : (d.run ops).1.buf.cap = d.buf.cap :=
  (run_good ops h).1.2

theorem run_no_panic (ops : List Op) {d : Dec} (h : Inv d) :
    ∀ o ∈ (d.run ops).2, ∀ s, o ≠ OpOut.out (Out.panic s) := (run_good ops h).2

theorem pushAll_inv (s : List UInt8) {d : Dec} (h : Inv d) : Inv (d.pushAll s).1 := by
  rw [(pushAll_eq_run s d).1]; exact run_inv _ h

theorem pushAll_cap (s : List UInt8) {d : Dec} (h : Inv d) :
    (d.pushAll s).1.buf.cap = d.buf.cap := by
  rw [(pushAll_eq_run s d).1]; exact run_cap _ h

/-- Stated with `cap` on the right: asked to see `(fresh cap).buf.cap =?= cap` next to `pushAll`
under projections, the unifier evaluates `pushAll`. -/
theorem pushAll_cap_fresh (cap : Option Nat) (s : List UInt8) :
    ((fresh cap).pushAll s).1.buf.cap = cap :=
  (pushAll_cap s (inv_fresh cap)).trans rfl

theorem pushAll_raw_le (s : List UInt8) : ∀ {d : Dec}, Inv d →
    (d.pushAll s).1.raw ≤ d.raw + s.length := by
  induction s with
  | nil => intro d _; simp [pushAll]
  | cons b bs ih =>
    intro d h
    rw [pushAll_consR]
    have h1 := ih (push_inv h b)
    have h2 := pushByte_raw_le h b
    rw [← push_fst] at h2
    simp only [List.length_cons]
    omega

theorem pushAll_no_panic (s : List UInt8) {d : Dec} (h : Inv d) :
    ∀ o ∈ (d.pushAll s).2, ∀ t, o ≠ Out.panic t := by
  intro o ho t hc
  have hm : OpOut.out o ∈ (d.run (s.map Op.push)).2 := by
    rw [← (pushAll_eq_run s d).2]; exact List.mem_map_of_mem ho
  exact run_no_panic _ h _ hm t (by rw [hc])

/-- a delivered payload fits the capacity -/
theorem push_msg_fits {d : Dec} (h : Inv d) {b : UInt8} {m : List UInt8}
    (hm : (d.push b).2 = Out.msg m) : fitsCap d.buf.cap m.length := by
  have hwf := (push_inv h b).wf
  have hcap := push_cap h b
  rw [push_fst] at hwf hcap
  rw [← (push_msg_iff.1 hm).2, ← hcap]
  simpa [Buf.WF, Buf.len, Buf.data] using hwf

theorem msg_fits (s : List UInt8) {d : Dec} (hd : Inv d) (j : Nat) (m : List UInt8)
    (h : (d.pushAll s).2[j]? = some (Out.msg m)) : fitsCap d.buf.cap m.length := by
  obtain ⟨x, _, _, ho⟩ := pushAll_getElem? s d j _ h
  rw [← pushAll_cap (s.take j) hd]
  exact push_msg_fits (pushAll_inv (s.take j) hd) ho.symm

/-- after `InvalidMessage`, `InvalidEsc` or `OutOfMemory` the decoder is reset -/
theorem push_err_isReset {d : Dec} {b : UInt8} {e : DecErr} (he : ∀ n, e ≠ .discarded n)
    (h : (d.push b).2 = Out.err e) : IsReset (d.push b).1 := by
  rw [push_fst]
  exact pushByte_err (Prod.ext rfl (push_err_iff.1 h)) he

theorem state_after_err (s : List UInt8) (d : Dec) (i : Nat) (e : DecErr)
    (he : ∀ n, e ≠ .discarded n) (h : (d.pushAll s).2[i]? = some (Out.err e)) :
    IsReset (d.pushAll (s.take (i + 1))).1 := by
  obtain ⟨x, hx, _, ho⟩ := pushAll_getElem? s d i _ h
  rw [hx, pushAll_append]
  exact push_err_isReset he ho.symm

/-- the answers end with the error -/
theorem state_of_last_err {s : List UInt8} {d : Dec} {L : List Out} {e : DecErr}
    (he : ∀ n, e ≠ .discarded n) (h : (d.pushAll s).2 = L ++ [Out.err e]) :
    IsReset (d.pushAll s).1 := by
  have hl : s.length = L.length + 1 := by rw [← pushAll_length s d, h]; simp
  have := state_after_err s d L.length e he (by rw [h]; exact List.getElem?_concat_length ..)
  rwa [List.take_of_length_le (by omega)] at this

theorem finalize_cases (d : Dec) :
    d.finalize.2 = none ∨ d.finalize.2 = some (.discarded d.raw) := by
  unfold finalize
  simp only
  split
  · exact Or.inl rfl
  · exact Or.inl rfl
  · exact Or.inr rfl

/-- what `finalize` reports is what `reset` counts; of the invariant this needs only that `raw` is
`disc + init` while looking for a start sequence and not zero inside a transmission -/
theorem finalize_eq_reset_of {d : Dec}
    (hl : ∀ disc init, d.st = .look disc init → d.raw = disc + init)
    (hr : (∀ a b, d.st ≠ .look a b) → d.st ≠ .done → d.raw ≠ 0) :
    d.finalize.2 = if d.reset.2 = 0 then none else some (.discarded d.reset.2) := by
  rcases d with ⟨raw, crc, st, zc, buf⟩
  cases st with
  | look disc init =>
    have := hl disc init rfl
    simp only at this
    cases disc with
    | zero =>
      cases init with
      | zero => simp [finalize, reset, this]
      | succ i => simp [finalize, reset, this]
    | succ k => simp [finalize, reset, this]
  | done => simp [finalize, reset]
  | normal => have := hr (by simp) (by simp); simp [finalize, reset, this]
  | escChars n => have := hr (by simp) (by simp); simp [finalize, reset, this]
  | escPayload s q => have := hr (by simp) (by simp); simp [finalize, reset, this]

theorem finalize_eq_reset {d : Dec} (h : Inv d) :
    d.finalize.2 = if d.reset.2 = 0 then none else some (.discarded d.reset.2) :=
  finalize_eq_reset_of (fun _ _ hs => (h.look hs).2.2.2)
    fun hs _ h0 => by have := h.raw_ge hs; omega

theorem finalize_none_iff {d : Dec} (h : Inv d) : d.finalize.2 = none ↔ d.reset.2 = 0 := by
  rw [finalize_eq_reset h]
  split <;> simp_all

/-- nothing is pending: no byte since the last boundary -/
theorem reset_eq_zero_iff {d : Dec} (h : Inv d) :
    d.reset.2 = 0 ↔ d.st = .done ∨ d.st = .look 0 0 := by
  rw [← finalize_none_iff h]
  simp only [finalize]
  split <;> simp_all

end Dec

end Sml
