import Sml.Lemmas.DecEquiv
/-
  What the list and iterator front-ends report (`decode`, `DecodeIterator`): `Dec.allItems`, the
  non-`None` answers of `push_byte` followed by the answer of `finalize`; `padTo` / `cutNone`
  describe a consumer that keeps calling `next`.  `Item.toR`, `Dec.allRItems` are the same in
  the vocabulary of `DecoderReader`.  `C15.items`, `C15.finalItem`, `C15.finalRItem` are the
  parts they are made of.
-/
namespace Sml

open C07

namespace C15

/-- payloads and decode errors among the `push_byte` results -/
def items (outs : List Out) : List Item := outs.filterMap Out.toItem?

/-- what `finalize` adds at end of input -/
def finalItem (d : Dec) : List Item :=
  match d.finalize.2 with
  | some e => [Item.err e]
  | none => []

end C15

theorem C02.toItem?_eq_ok {o : Out} {m : List UInt8} (h : o.toItem? = some (Item.ok m)) :
    o = .msg m := by
  cases o <;> first | (cases h; rfl) | cases h

theorem C02.toItem?_eq_none {o : Out} (h : o.toItem? = none) : o = .none := by
  cases o <;> first | rfl | cases h

namespace Dec

/-- the items a byte string produces from state `d`: one per non-`None` result of `push_byte`,
then the result of `finalize` -/
def allItems (d : Dec) (s : List UInt8) : List Item :=
  C15.items (d.pushAll s).2 ++ C15.finalItem (d.pushAll s).1

theorem allItems_nil (d : Dec) : d.allItems [] = C15.finalItem d := rfl

theorem allItems_cons (d : Dec) (b : UInt8) (bs : List UInt8) :
    d.allItems (b :: bs) =
      (match (d.push b).2.toItem? with | some x => [x] | none => []) ++ (d.push b).1.allItems bs := by
  unfold allItems C15.items
  rw [pushAll_consR]
  cases h : (d.push b).2.toItem? <;> simp [h]

theorem finalItem_length_le (d : Dec) : (C15.finalItem d).length ≤ 1 := by
  unfold C15.finalItem; split <;> simp

theorem allItems_length_le (d : Dec) (s : List UInt8) : (d.allItems s).length ≤ s.length + 1 := by
  unfold allItems C15.items
  have h1 := List.length_filterMap_le Out.toItem? (d.pushAll s).2
  have h2 := finalItem_length_le (d.pushAll s).1
  rw [pushAll_length] at h1
  rw [List.length_append]
  omega

theorem allItems_equiv (s : List UInt8) {d d' : Dec} (h : Equiv d d') :
    d.allItems s = d'.allItems s := by
  unfold allItems C15.finalItem
  rw [(pushAll_equiv s h).1, finalize_equiv (pushAll_equiv s h).2]

end Dec

theorem Dec.allItems_no_panic {d : Dec} (h : Dec.Inv d) (s : List UInt8) :
    ∀ x ∈ d.allItems s, ∀ t, x ≠ Item.panic t := by
  rintro x hx t rfl
  rcases List.mem_append.1 hx with hx | hx
  · obtain ⟨o, ho, hox⟩ := List.mem_filterMap.1 hx
    cases o with
    | panic t' => exact Dec.pushAll_no_panic s h _ ho t' rfl
    | _ => simp [Out.toItem?] at hox
  · unfold C15.finalItem at hx
    split at hx <;> simp at hx

theorem decodeAll_go_eq (s : List UInt8) : ∀ {d : Dec}, Dec.Inv d →
    decodeAll.go d s = d.allItems s := by
  induction s with
  | nil =>
    intro d _
    unfold decodeAll.go
    rw [Dec.allItems_nil, C15.finalItem]
    rcases d.finalize with ⟨d', e⟩
    cases e <;> rfl
  | cons b bs ih =>
    intro d h
    have hnp := Dec.push_no_panic h b
    have hi := ih (Dec.push_inv h b)
    rw [Dec.allItems_cons]
    unfold decodeAll.go
    rcases hp : d.push b with ⟨d', o⟩
    rw [hp] at hnp hi
    simp only at hnp hi
    cases o with
    | none => simpa [Out.toItem?] using hi
    | msg m => simpa [Out.toItem?] using hi
    | err e => simpa [Out.toItem?] using hi
    | panic t => exact absurd rfl (hnp t)

/-- the first `k` elements of `l` followed by `x` forever -/
def padTo {α : Type} (x : α) (l : List α) (k : Nat) : List α := (l ++ List.replicate k x).take k

theorem padTo_zero {α : Type} (x : α) (l : List α) : padTo x l 0 = [] := by simp [padTo]

theorem padTo_nil {α : Type} (x : α) (k : Nat) : padTo x [] k = List.replicate k x := by
  simp [padTo]

theorem padTo_cons {α : Type} (x y : α) (l : List α) (k : Nat) :
    padTo x (y :: l) (k + 1) = y :: padTo x l k := by
  simp [padTo, List.replicate_succ']
  rw [← List.append_assoc, List.take_append_of_le_length (by simp)]

theorem padTo_length {α : Type} (x : α) (l : List α) (k : Nat) : (padTo x l k).length = k := by
  simp [padTo]

theorem padTo_eq_take_append {α : Type} (x : α) (l : List α) (k : Nat) :
    padTo x l k = l.take k ++ List.replicate (k - l.length) x := by
  rw [padTo, List.take_append, List.take_replicate, Nat.min_eq_left (Nat.sub_le ..)]

theorem padTo_append_left {α : Type} (x : α) (a l : List α) (k : Nat) :
    padTo x (a ++ l) (a.length + k) = a ++ padTo x l k := by
  simp [padTo_eq_take_append, List.take_append, Nat.add_sub_add_left,
    List.take_of_length_le (Nat.le_add_right a.length k)]

theorem padTo_append_singleton_left {α : Type} (x y : α) (a l : List α) (k : Nat) :
    padTo x (a ++ [y] ++ l) (a.length + 1 + k) = a ++ [y] ++ padTo x l k := by
  have := padTo_append_left x (a ++ [y]) l k
  rwa [List.length_append, List.length_singleton] at this

theorem padTo_append_length {α : Type} (x : α) (a l : List α) : padTo x (a ++ l) a.length = a := by
  have := padTo_append_left x a l 0
  rwa [padTo_zero, List.append_nil, Nat.add_zero] at this

theorem padTo_snoc_self {α : Type} (x : α) (l : List α) (k : Nat) :
    padTo x (l ++ [x]) k = padTo x l k := by
  rw [padTo, padTo, List.append_assoc, List.singleton_append, ← List.replicate_succ,
    List.replicate_succ', ← List.append_assoc, List.take_append_of_le_length (by simp)]

theorem padTo_take {α : Type} (x : α) (l : List α) (k : Nat) :
    padTo x (l.take k) k = padTo x l k := by
  rw [padTo_eq_take_append, padTo_eq_take_append, List.take_take, Nat.min_self, List.length_take]
  congr 2
  omega

theorem map_padTo {α β : Type} (f : α → β) (x : α) (l : List α) (k : Nat) :
    (padTo x l k).map f = padTo (f x) (l.map f) k := by
  simp [padTo, List.map_take]

/-- the results before the first `None` -/
def cutNone {α : Type} : List (Option α) → List α
  | [] => []
  | none :: _ => []
  | some x :: l => x :: cutNone l

theorem cutNone_padTo {α : Type} (l : List α) : ∀ {k : Nat}, l.length < k →
    cutNone (padTo none (l.map some) k) = l := by
  induction l with
  | nil =>
    intro k hk
    cases k with
    | zero => simp at hk
    | succ k => rw [List.map_nil, padTo_nil, List.replicate_succ]; rfl
  | cons x l ih =>
    intro k hk
    cases k with
    | zero => simp at hk
    | succ k =>
      rw [List.map_cons, padTo_cons, cutNone, ih (by simpa using hk)]

theorem getElem?_padTo {α : Type} (x : α) (l : List α) (k i : Nat) (hi : i < k) :
    (padTo x l k)[i]? = some (l[i]?.getD x) := by
  unfold padTo
  rw [List.getElem?_take_of_lt hi, List.getElem?_append]
  split
  · next h => simp [h]
  · next h => simp [show i - l.length < k by omega, show l.length ≤ i by omega]

namespace DecIter

theorem take_succ (it : DecIter) (k : Nat) :
    it.take (k + 1) = it.next.2 :: it.next.1.take k := rfl

theorem take_done {it : DecIter} (h : it.done = true) (k : Nat) :
    it.take k = List.replicate k none := by
  induction k with
  | zero => rfl
  | succ k ih =>
    have : it.next = (it, none) := by simp [next, h]
    rw [take_succ, this, List.replicate_succ, ih]

theorem next_of_not_done (d : Dec) (s : List UInt8) :
    next { dec := d, bytes := s, done := false } = pull d s := by
  simp [next]

/-- one byte: the loop goes on if `push_byte` answers `Ok(None)`, and returns any other answer -/
theorem pull_cons (d : Dec) (b : UInt8) (bs : List UInt8) :
    DecIter.pull d (b :: bs) =
      match (d.push b).2.toItem? with
      | none => DecIter.pull (d.push b).1 bs
      | some x => ({ dec := (d.push b).1, bytes := bs, done := false }, some x) := by
  rw [Dec.push_eq, DecIter.pull]
  rcases hp : d.pushByte b with ⟨d', r⟩
  cases r with
  | ready => simp [Dec.resOut, Out.toItem?, Dec.borrowBuf, Dec.isDone, Dec.pushByte_ready hp]
  | _ => rfl

theorem take_eq (s : List UInt8) : ∀ (d : Dec) (k : Nat),
    take { dec := d, bytes := s, done := false } k = padTo none ((d.allItems s).map some) k := by
  induction s with
  | nil =>
    intro d k
    cases k with
    | zero => rw [padTo_zero]; rfl
    | succ k =>
      rw [take_succ, next_of_not_done]
      unfold pull
      simp only
      rw [take_done rfl, Dec.allItems_nil, C15.finalItem]
      cases d.finalize.2 with
      | none => simp [padTo_nil, List.replicate_succ]
      | some e => simp [padTo_cons, padTo_nil]
  | cons b bs ih =>
    intro d k
    cases k with
    | zero => rw [padTo_zero]; rfl
    | succ k =>
      have hi := ih (d.push b).1
      rw [take_succ, next_of_not_done, Dec.allItems_cons]
      cases hx : (d.push b).2.toItem? with
      | none =>
        have := hi (k + 1)
        rw [take_succ, next_of_not_done] at this
        rw [pull_cons, hx]
        simpa using this
      | some x =>
        rw [pull_cons, hx]
        simp [padTo_cons, hi k]

theorem take_new (cap : Option Nat) (s : List UInt8) (k : Nat) :
    (DecIter.new cap s).take k = padTo none (((Dec.fresh cap).allItems s).map some) k :=
  take_eq s (Dec.fresh cap) k

end DecIter

/-- list / iterator item as reported by the reader front-ends -/
def Item.toR : Item → RItem
  | .ok m => .ok m
  | .err e => .decErr e
  | .panic s => .panic s

/-- what the reader reports at end of input instead of `finalItem` -/
def C15.finalRItem (d : Dec) : List RItem :=
  match d.finalize.2 with
  | some (.discarded n) => [RItem.ioErr .eof n]
  | _ => []

/-- the results of `DecoderReader::next` for a byte string from state `d` -/
def Dec.allRItems (d : Dec) (s : List UInt8) : List RItem :=
  (C15.items (d.pushAll s).2).map Item.toR ++ C15.finalRItem (d.pushAll s).1

end Sml
