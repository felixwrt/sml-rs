import Sml.Lemmas.Stuff
/-
  Facts about `C08.StartFree g` ("in `g ++ START` the start sequence occurs only at the very end"):

  * `C08.startFree_iff`: it says exactly that the start sequence does not occur in `g`, because the
    start sequence has no period (`START_no_period`);
  * sufficient conditions: `1b 1b 1b 1b 01` does not occur in `g` (`C16.startFree_of_no_esc01`);
    `g` is a proper suffix of the frame of a payload without 0x1b (`C16.startFree_rest_of_no_1b`).
-/
namespace Sml

namespace C08

/-- `g` is noise: in `g ++ START` the start sequence occurs only at offset `|g|`.  (So `g` does
not contain the start sequence, and no start sequence begins inside `g` and ends inside the start
sequence that follows.  `g` may end in 0x1b bytes or in a partial start sequence.) -/
def StartFree (g : List UInt8) : Prop :=
  ∀ k, k < g.length → ¬ (START <+: (g ++ START).drop k)

instance (g : List UInt8) : Decidable (StartFree g) := by unfold StartFree; infer_instance

/-- START has no period `t` with `0 < t < 8` -/
theorem START_no_period : ∀ t < 8, 0 < t → ∃ j < 8, t ≤ j ∧ START[j]? ≠ START[j - t]? := by
  decide

theorem START_length : START.length = 8 := rfl

/-- `StartFree g` (the start sequence occurs in `g ++ START` only at offset `|g|`) says exactly that
the start sequence does not occur in `g`: an occurrence that begins inside `g` and ends inside the
following start sequence is impossible because the start sequence has no period (`START_no_period`). -/
theorem startFree_iff (g : List UInt8) : StartFree g ↔ ¬ START <:+: g := by
  constructor
  · rintro h ⟨a, b, hab⟩
    have hk : a.length < g.length := by
      rw [← hab]; simp [START_length]; omega
    apply h a.length hk
    refine ⟨b ++ START, ?_⟩
    rw [← hab]
    simp [List.append_assoc]
  · intro h k hk hp
    by_cases hle : k + 8 ≤ g.length
    · apply h
      rw [List.drop_append_of_le_length (by omega)] at hp
      have hlen : START.length ≤ (g.drop k).length := by
        rw [List.length_drop, START_length]; omega
      have hp' : START <+: g.drop k := List.prefix_of_prefix_length_le hp (List.prefix_append _ _) hlen
      exact List.IsInfix.trans hp'.isInfix (List.drop_suffix k g).isInfix
    · rw [List.drop_append_of_le_length (by omega)] at hp
      have ht : (g.drop k).length = g.length - k := List.length_drop
      obtain ⟨j, hj8, htj, hne⟩ := START_no_period (g.length - k) (by omega) (by omega)
      apply hne
      obtain ⟨r, hr⟩ := hp
      have h1 : (START ++ r)[j]? = START[j]? := List.getElem?_append_left (by rw [START_length]; exact hj8)
      have h2 : (g.drop k ++ START)[j]? = START[j - (g.length - k)]? := by
        rw [List.getElem?_append_right (by omega), ht]
      rw [← h1, hr, h2]

/-- the `StartFree` witnesses of C08 in the infix form -/
example : ¬ START <:+: [0x1b, 0x1b, 0x1b, 0x1b, 0x01, 0x01, 0x01, 0x1b] :=
  (startFree_iff _).1 (by decide)

example : START <:+: [0x00] ++ START ++ [0x1b] := ⟨[0x00], [0x1b], rfl⟩

end C08

namespace C16

open Spec (frame)
open C08 (StartFree)

/-- If the five bytes `1b 1b 1b 1b 01` do not occur (contiguously) in `g`, then `g` is noise:
a start sequence that begins inside `g` needs them either inside `g`, or with the `01` inside the
following start sequence at one of its first four positions, which hold `1b`. -/
theorem startFree_of_no_esc01 (g : List UInt8)
    (h : ∀ k, ¬ ([0x1b, 0x1b, 0x1b, 0x1b, 0x01] <+: g.drop k)) : StartFree g := by
  intro k hk hpre
  have h5 : ([0x1b, 0x1b, 0x1b, 0x1b, 0x01] : List UInt8) <+: (g ++ START).drop k :=
    List.IsPrefix.trans ⟨[0x01, 0x01, 0x01], rfl⟩ hpre
  by_cases hlen : k + 5 ≤ g.length
  · apply h k
    rw [List.drop_append_of_le_length (by omega)] at h5
    exact List.prefix_of_prefix_length_le h5 (List.prefix_append _ _) (by simp; omega)
  · obtain ⟨t, ht⟩ := h5
    have e : ((g ++ START).drop k)[4]? = some 0x01 := by rw [← ht]; rfl
    rw [List.getElem?_drop, List.getElem?_append_right (by omega)] at e
    have : k + 4 - g.length = 0 ∨ k + 4 - g.length = 1 ∨ k + 4 - g.length = 2 ∨
        k + 4 - g.length = 3 := by omega
    rcases this with h' | h' | h' | h' <;> rw [h'] at e <;> revert e <;> decide

theorem noEsc01_append (B R : List UInt8) (hB : ∀ b ∈ B, b ≠ 0x1b)
    (hR : ∀ t, ¬ ([0x1b, 0x1b, 0x1b, 0x1b, 0x01] : List UInt8) <+: R.drop t) :
    ∀ t, ¬ ([0x1b, 0x1b, 0x1b, 0x1b, 0x01] : List UInt8) <+: (B ++ R).drop t := by
  induction B with
  | nil => exact hR
  | cons b B ih =>
    intro t
    cases t with
    | zero =>
      intro h
      rw [List.drop_zero, List.cons_append, List.cons_prefix_cons] at h
      exact hB b (by simp) h.1.symm
    | succ t =>
      rw [List.cons_append, List.drop_succ_cons]
      exact ih (fun x hx => hB x (by simp [hx])) t

theorem noEsc01_end (kk c1 c2 : UInt8) :
    ∀ t, ¬ ([0x1b, 0x1b, 0x1b, 0x1b, 0x01] : List UInt8) <+:
      ([0x1b, 0x1b, 0x1b, 0x1b, 0x1a, kk, c1, c2] : List UInt8).drop t := by
  intro t h
  -- the pattern has to cover the `1a` at index 4, and contains none
  have hl : 5 ≤ 8 - t := by simpa using h.length_le
  have ht : t = 0 ∨ t = 1 ∨ t = 2 ∨ t = 3 := by omega
  rcases ht with rfl | rfl | rfl | rfl <;> simp [List.cons_prefix_cons] at h

theorem noEsc01_frame (p : List UInt8) (hp : ∀ b ∈ p, b ≠ 0x1b) (m : Nat) (hm : 1 ≤ m) :
    ¬ ([0x1b, 0x1b, 0x1b, 0x1b, 0x01] : List UInt8) <+: (frame p).drop m := by
  have hs : Spec.stuff p = p := Spec.stuffFrom_of_no_1b 0 hp
  rw [Sml.frame_eq_parts, hs]
  generalize Spec.padLen (Spec.START ++ p).length = k
  generalize crc16 (Spec.framePrefix p) = c
  have hT := noEsc01_append p _ hp (noEsc01_append (List.replicate k 0) _
    (fun b hb => by rw [List.eq_of_mem_replicate hb]; decide)
    (noEsc01_end (UInt8.ofNat k) c.toUInt8 (c >>> 8).toUInt8))
  intro h
  have hm' : m = 1 ∨ m = 2 ∨ m = 3 ∨ m = 4 ∨ m = 5 ∨ m = 6 ∨ m = 7 ∨ 8 ≤ m := by omega
  rcases hm' with rfl | rfl | rfl | rfl | rfl | rfl | rfl | hm'
  · simp [Spec.START] at h
  · simp [Spec.START] at h
  · simp [Spec.START] at h
  · simp [Spec.START] at h
  · simp [Spec.START] at h
  · simp [Spec.START] at h
  · simp [Spec.START] at h
  · rw [List.drop_append, List.drop_of_length_le (by simpa [Spec.START] using hm'),
      List.nil_append] at h
    exact hT _ h

/-- If the payload of the oversized frame contains no 0x1b byte, every proper suffix of its frame
is noise - whatever the checksum bytes are.  So the hypothesis of `next_frame` holds for every
position of the error. -/
theorem startFree_rest_of_no_1b (p : List UInt8) (hp : ∀ b ∈ p, b ≠ 0x1b) (j : Nat) (hj : 1 ≤ j) :
    StartFree ((frame p).drop j) :=
  startFree_of_no_esc01 _ (fun k => by
    rw [List.drop_drop]; exact noEsc01_frame p hp _ (by omega))

end C16

end Sml
