import Sml.Model.DecodeFallible
import Sml.Lemmas.DecEquiv
import Sml.Lemmas.DecWindow
/-
  `DecF` (Sml/Model/DecodeFallible.lean: the push decoder over a `Vec<u8>` whose allocation may
  fail) against `Dec`.  `step_rel`: one operation only consumes the oracle and either is the
  operation of `Dec`, or the oracle held a `false`, the answer is `Err(OutOfMemory)` and the
  decoder is reset.  `step_transport` carries what holds of `Dec.step` and of such an answer
  (`Dec.Inv`, `Dec.norm = fresh`, `Dec.WInv []` hold in a reset state) over to `DecF`; `run_rel`
  lifts the simulation to histories.  The function lemmas are terms in the style of
  DecArrRefine.lean (see the remark there on how to find a branch that no longer matches).
-/

namespace Sml

namespace DecF

-- the unifier must not evaluate digests when it matches the two decoders' states
attribute [local irreducible] crcUpdate crcByte startCrc crcFinal crcInit

def AllTrue (l : List Bool) : Prop := ∀ a ∈ l, a = true

theorem allTrue_nil : AllTrue [] := fun _ h => nomatch h

theorem AllTrue.suffix {l l' : List Bool} (h : AllTrue l) (hs : l' <:+ l) : AllTrue l' :=
  fun a ha => h a (hs.subset ha)

def blank (c : UInt16) (cap : Option Nat) : Dec :=
  { raw := 0, crc := c, st := .look 0 0, zc := 0, buf := { cap := cap, rdata := [] } }

theorem norm_blank (c : UInt16) (cap : Option Nat) : (blank c cap).norm = Dec.fresh cap := rfl

/-- Result of a data push on `DecF` against the result on `Dec`, started with digest `c`, capacity
    `cap` and oracle `al`.  After an out-of-memory result the decoder is reset, and `Dec` ran out
    of memory too unless the oracle held a `false`. -/
def RelP (c : UInt16) (cap : Option Nat) (al : List Bool) : PushResF → Dec.PushRes → Prop
  | .ok f', ra => f'.d.crc = c ∧ f'.d.buf.cap = cap ∧ f'.alloc <:+ al ∧ ra = .ok f'.d
  | .oom f', ra => f'.d = blank c cap ∧ f'.alloc <:+ al ∧ (ra = .oom ∨ ∃ a ∈ al, a = false)
  | .panic s, ra => ra = .panic s

theorem RelP.refl (f : DecF) : RelP f.d.crc f.d.buf.cap f.alloc (.ok f) (.ok f.d) :=
  ⟨rfl, rfl, List.suffix_refl _, rfl⟩

theorem RelP.weaken {c : UInt16} {cap : Option Nat} {al al' : List Bool} {r : PushResF}
    {ra : Dec.PushRes} (h : RelP c cap al' r ra) (hs : al' <:+ al) : RelP c cap al r ra := by
  cases r with
  | ok f' => exact ⟨h.1, h.2.1, h.2.2.1.trans hs, h.2.2.2⟩
  | oom f' =>
    exact ⟨h.1, h.2.1.trans hs, h.2.2.imp_right fun ⟨a, ha, hf⟩ => ⟨a, hs.subset ha, hf⟩⟩
  | panic s => exact h

/-- sequencing (the `?` operator): both sides go on after `ok` and stop otherwise -/
theorem RelP.bind {c : UInt16} {cap : Option Nat} {al : List Bool} {r : PushResF}
    {ra : Dec.PushRes} {k : DecF → PushResF} {ka : Dec → Dec.PushRes} (h : RelP c cap al r ra)
    (hk : ∀ f', RelP f'.d.crc f'.d.buf.cap f'.alloc (k f') (ka f'.d)) :
    RelP c cap al (match (generalizing := false) r with | .ok f' => k f' | r => r)
      (match (generalizing := false) ra with | .ok d' => ka d' | r => r) := by
  cases r with
  | ok f' => obtain ⟨rfl, rfl, h3, rfl⟩ := h; exact (hk f').weaken h3
  | oom f' => exact ⟨h.1, h.2.1, h.2.2.imp_left fun e => by rw [e]⟩
  | panic s => cases h; rfl

theorem pushInner_rel (f : DecF) (b : UInt8) :
    RelP f.d.crc f.d.buf.cap f.alloc (f.pushInner b) (Dec.ofOpt (f.d.pushInner b)) := by
  rcases f with ⟨d, al⟩
  have ok : ∀ rest, rest <:+ al → RelP d.crc d.buf.cap al
      (match d.buf.push b with
        | some buf => .ok ⟨{ d with buf := buf }, rest⟩
        | Option.none => .oom ⟨d.reset.1, rest⟩) (Dec.ofOpt (d.pushInner b)) := by
    intro rest hs
    unfold Dec.pushInner
    cases hp : d.buf.push b with
    | some buf => exact ⟨rfl, Buf.push_cap hp, hs, rfl⟩
    | none => exact ⟨rfl, hs, .inl rfl⟩
  cases al with
  | nil => exact ok [] (List.suffix_refl _)
  | cons a rest =>
    cases a with
    | true => exact ok rest (List.suffix_cons _ _)
    | false => exact ⟨rfl, List.suffix_cons _ _, .inr ⟨false, List.mem_cons_self, rfl⟩⟩

theorem pushZeros_rel (n : Nat) : ∀ (f : DecF),
    RelP f.d.crc f.d.buf.cap f.alloc (f.pushZeros n) (Dec.ofOpt (f.d.pushZeros n)) := by
  induction n with
  | zero => exact RelP.refl
  | succ n ih =>
    intro f
    rw [Dec.pushZeros_succ]; unfold DecF.pushZeros
    exact (pushInner_rel f 0).bind ih

theorem flush_rel (f : DecF) :
    RelP f.d.crc f.d.buf.cap f.alloc f.flush (Dec.ofOpt f.d.flush) := by
  rw [Dec.flush_pushRes]; unfold DecF.flush
  exact (pushZeros_rel f.d.zc f).bind (k := fun f' => .ok { f' with d := { f'.d with zc := 0 } })
    (ka := fun d' => .ok { d' with zc := 0 }) (fun _ => ⟨rfl, rfl, List.suffix_refl _, rfl⟩)

theorem pushData_rel (f : DecF) (b : UInt8) :
    RelP f.d.crc f.d.buf.cap f.alloc (f.pushData b) (f.d.pushData b) := by
  rw [Dec.pushData_pushRes]
  exact rel_ite _
    (rel_ite _ (rel_ite _ rfl ⟨rfl, rfl, List.suffix_refl _, rfl⟩) (pushInner_rel f b))
    ((flush_rel f).bind (k := (·.pushInner b)) (ka := fun d' => Dec.ofOpt (d'.pushInner b))
      (pushInner_rel · b))

theorem pushRep_rel (x : UInt8) (n : Nat) : ∀ (f : DecF),
    RelP f.d.crc f.d.buf.cap f.alloc (f.pushRep x n) (f.d.pushRep x n) := by
  induction n with
  | zero => exact RelP.refl
  | succ n ih =>
    intro f
    unfold DecF.pushRep Dec.pushRep
    exact (pushData_rel f x).bind ih

theorem pushList_rel (l : List UInt8) : ∀ (f : DecF),
    RelP f.d.crc f.d.buf.cap f.alloc (f.pushList l) (f.d.pushList l) := by
  induction l with
  | nil => exact RelP.refl
  | cons x l ih =>
    intro f
    unfold DecF.pushList Dec.pushList
    exact (pushData_rel f x).bind ih

/-- Relation between the results of an operation on the two decoders (started with capacity `cap`
    and oracle `al`; `oom` is how the operation reports `Err(OutOfMemory)`): the oracle is only
    consumed, and either state and answer agree, or the oracle held a `false`, the answer is
    `oom` and the decoder has been reset. -/
def RelK {α : Type} (oom : α) (cap : Option Nat) (al : List Bool) (x : DecF × α) (y : Dec × α) :
    Prop :=
  x.1.alloc <:+ al ∧
    ((x.1.d = y.1 ∧ x.2 = y.2) ∨
      ((∃ a ∈ al, a = false) ∧ (∃ c, x.1.d = blank c cap) ∧ x.2 = oom))

theorem RelK.same {α : Type} {oom : α} {cap : Option Nat} {al : List Bool} {x : DecF × α}
    {y : Dec × α} (h1 : x.1.alloc <:+ al) (h2 : x.1.d = y.1) (h3 : x.2 = y.2) :
    RelK oom cap al x y := ⟨h1, Or.inl ⟨h2, h3⟩⟩

theorem RelK.ctl {α : Type} {oom : α} {cap : Option Nat} (al : List Bool) (d : Dec) (r : α) :
    RelK oom cap al (⟨d, al⟩, r) (d, r) := RelK.same (List.suffix_refl _) rfl rfl

theorem RelK.map {α β : Type} {oom : α} {cap : Option Nat} {al : List Bool} {x : DecF × α}
    {y : Dec × α} (g : α → β) (h : RelK oom cap al x y) :
    RelK (g oom) cap al (x.1, g x.2) (y.1, g y.2) :=
  ⟨h.1, h.2.imp (fun e => ⟨e.1, congrArg g e.2⟩) (fun e => ⟨e.1, e.2.1, congrArg g e.2.2⟩)⟩

theorem afterPush_rel {f0 : DecF} {r : PushResF} {ra : Dec.PushRes} {k : DecF → DecF × Res}
    {ka : Dec → Dec × Res} {c : UInt16} {cap : Option Nat} {al : List Bool}
    (h0 : f0.d.crc = c) (h0c : f0.d.buf.cap = cap) (h0a : f0.alloc <:+ al)
    (hr : RelP c cap al r ra)
    (hk : ∀ f', f'.d.crc = c → f'.d.buf.cap = cap → f'.alloc <:+ al →
      RelK (Res.err .oom) cap al (k f') (ka f'.d)) :
    RelK (Res.err .oom) cap al (afterPush f0 r k) (Dec.afterPush f0.d ra ka) := by
  cases r with
  | ok f' => obtain ⟨h1, h2, h3, rfl⟩ := hr; exact hk f' h1 h2 h3
  | oom f' =>
    obtain ⟨h1, h2, h3⟩ := hr
    rcases h3 with rfl | hf
    · refine RelK.same h2 ?_ rfl
      show f'.d = f0.d.reset.1
      rw [h1, ← h0, ← h0c]; rfl
    · exact ⟨h2, Or.inr ⟨hf, ⟨c, h1⟩, rfl⟩⟩
  | panic s => cases hr; exact RelK.same h0a rfl rfl

theorem pushEnd_rel (f : DecF) (q : Quad) :
    RelK (Res.err .oom) f.d.buf.cap f.alloc (f.pushEnd q) (f.d.pushEnd q) := by
  refine rel_ite _ (.ctl ..) (rel_ite _ (.ctl ..) ?_)
  have hk := afterPush_rel (f0 := ⟨{ f.d with crc := crcInit, zc := f.d.zc - q.b.toNat }, f.alloc⟩)
    (k := fun f' => ({ f' with d := { f'.d with st := .done } }, .ready))
    (ka := fun d => ({ d with st := .done }, .ready)) rfl rfl (List.suffix_refl _)
    (flush_rel _) (fun _ _ _ h3 => RelK.same h3 rfl rfl)
  -- `Dec.pushEnd` has a `match` where `afterPush` would stand (remark at `Dec.ofOpt`, DecData.lean)
  dsimp only at hk ⊢
  generalize Dec.flush _ = o at hk ⊢
  cases o <;> exact hk

theorem pushEscComplete_rel (f : DecF) (q : Quad) :
    RelK (Res.err .oom) f.d.buf.cap f.alloc (f.pushEscComplete q) (f.d.pushEscComplete q) :=
  rel_ite _
    (afterPush_rel (f0 := ⟨{ f.d with crc := _ }, f.alloc⟩) rfl rfl (List.suffix_refl _)
      (pushList_rel _ _) (fun _ _ _ h3 => RelK.same h3 rfl rfl))
    (rel_ite _ (rel_ite _ (.ctl ..) (.ctl ..))
      (rel_ite _ (pushEnd_rel f q) (rel_ite _
        (afterPush_rel (f0 := ⟨{ f.d with crc := _ }, f.alloc⟩) rfl rfl (List.suffix_refl _)
          (pushRep_rel _ _ _) (fun _ _ _ h3 => RelK.same h3 rfl rfl))
        (.ctl ..))))

theorem pushByte_rel (f : DecF) (b : UInt8) :
    RelK (Res.err .oom) f.d.buf.cap f.alloc (f.pushByte b) (f.d.pushByte b) := by
  rcases f with ⟨⟨raw, crc, st, zc, buf⟩, al⟩
  cases st with
  | look disc init =>
    exact RelK.same (List.suffix_refl _) rfl rfl
  | normal =>
    exact rel_ite _ (.ctl ..)
      (afterPush_rel (f0 := ⟨⟨raw + 1, crcByte crc b, .normal, zc, buf⟩, al⟩) rfl rfl
        (List.suffix_refl _) (pushData_rel _ _) (fun _ _ _ h3 => RelK.same h3 rfl rfl))
  | escChars n =>
    exact rel_ite _
      (afterPush_rel (f0 := ⟨⟨raw + 1, crcByte crc b, .escChars n, zc, buf⟩, al⟩) rfl rfl
        (List.suffix_refl _) (pushRep_rel _ _ _) (fun f' h1 h2 h3 =>
          afterPush_rel (f0 := ⟨⟨raw + 1, crcByte crc b, .escChars n, zc, buf⟩, f'.alloc⟩)
            rfl rfl h3 (h1 ▸ h2 ▸ (pushData_rel f' b).weaken h3)
            (fun f'' _ _ g3 => RelK.same g3 rfl rfl)))
      (rel_ite _ (.ctl ..) (rel_ite _ (.ctl ..) (.ctl ..)))
  | escPayload step q =>
    unfold DecF.pushByte Dec.pushByte
    dsimp only
    cases q.set step b with
    | none => exact .ctl ..
    | some q' =>
      exact rel_ite _ (.ctl ..)
        (pushEscComplete_rel ⟨⟨raw + 1, crc, .escPayload step q, zc, buf⟩, al⟩ q')
  | done =>
    exact RelK.same (List.suffix_refl _) rfl rfl

theorem push_rel (f : DecF) (b : UInt8) :
    RelK (Out.err .oom) f.d.buf.cap f.alloc (f.push b) (f.d.push b) := by
  obtain ⟨h1, h2⟩ := pushByte_rel f b
  unfold DecF.push Dec.push
  rcases hx : f.pushByte b with ⟨f', r⟩
  rcases hy : f.d.pushByte b with ⟨da, ra⟩
  rw [hx] at h1 h2
  rw [hy] at h2
  dsimp only at h1 h2
  rcases h2 with ⟨e1, e2⟩ | ⟨ha, hc, e⟩
  · subst e1 e2
    cases r <;> exact RelK.same h1 rfl rfl
  · subst e
    exact ⟨h1, Or.inr ⟨ha, hc, rfl⟩⟩

theorem step_rel (f : DecF) (op : Op) :
    RelK (OpOut.out (.err .oom)) f.d.buf.cap f.alloc (f.step op) (f.d.step op) := by
  cases op with
  | push b => exact (push_rel f b).map OpOut.out
  | fin => exact RelK.same (List.suffix_refl _) rfl rfl
  | reset => exact RelK.same (List.suffix_refl _) rfl rfl
  | new => exact RelK.same (List.suffix_refl _) rfl rfl
  | fromBuf stale => exact RelK.same (List.suffix_refl _) rfl rfl

/-- Transport along the simulation: what holds of the operation of `Dec`, and of an
    `OutOfMemory` answer that leaves a reset decoder of the same capacity, holds of the operation
    of the fallible decoder. -/
theorem step_transport (Q : Dec → OpOut → Prop) {f : DecF} {op : Op}
    (hdec : Q (f.d.step op).1 (f.d.step op).2)
    (hoom : ∀ x c, op = .push x → Q (blank c f.d.buf.cap) (.out (.err .oom))) :
    Q (f.step op).1.d (f.step op).2 := by
  rcases (step_rel f op).2 with ⟨e1, e2⟩ | ⟨_, ⟨c, hc⟩, e⟩
  · rw [e1, e2]; exact hdec
  · rw [hc, e]
    cases op with
    | push x => exact hoom x c rfl
    | fin => cases e
    | reset => cases e
    | new => cases e
    | fromBuf stale => cases e

theorem run_nil (f : DecF) : f.run [] = (f, []) := rfl

theorem run_cons (f : DecF) (op : Op) (ops : List Op) :
    f.run (op :: ops) = (((f.step op).1.run ops).1, (f.step op).2 :: ((f.step op).1.run ops).2) :=
  rfl

theorem run_snoc (ops : List Op) (op : Op) : ∀ f : DecF,
    f.run (ops ++ [op]) =
      (((f.run ops).1.step op).1, (f.run ops).2 ++ [((f.run ops).1.step op).2]) := by
  induction ops with
  | nil => intro f; rfl
  | cons o ops ih => intro f; rw [List.cons_append, run_cons, ih, run_cons]; rfl

theorem run_length (ops : List Op) : ∀ f : DecF, (f.run ops).2.length = ops.length := by
  induction ops with
  | nil => intro f; rfl
  | cons op ops ih => intro f; rw [run_cons]; simp [ih]

/-- The history-level simulation: the oracle is only consumed, and the whole history is that of
    `Dec` (answers and final state), unless some operation `k` answered `Err(OutOfMemory)` with a
    `false` in the oracle; up to `k` the two agree (state and answers), and `k` leaves a reset
    decoder. -/
theorem run_rel (ops : List Op) : ∀ f : DecF,
    (f.run ops).1.alloc <:+ f.alloc ∧
    (((f.run ops).2 = (f.d.run ops).2 ∧ (f.run ops).1.d = (f.d.run ops).1) ∨
      ∃ k, k < ops.length ∧ (f.run ops).2.take k = (f.d.run ops).2.take k ∧
        (f.run ops).2[k]? = some (.out (.err .oom)) ∧ ∃ a ∈ f.alloc, a = false) := by
  induction ops with
  | nil => intro f; exact ⟨List.suffix_refl _, .inl ⟨rfl, rfl⟩⟩
  | cons op ops ih =>
    intro f
    obtain ⟨hsuf, hstep⟩ := step_rel f op
    obtain ⟨isuf, ih⟩ := ih (f.step op).1
    rw [run_cons, Dec.run_cons]
    refine ⟨isuf.trans hsuf, ?_⟩
    rcases hstep with ⟨e1, e2⟩ | ⟨hf, _, e⟩
    · rw [e1] at ih
      rcases ih with ⟨a2, a1⟩ | ⟨k, hk, t, g, a, ha, hfa⟩
      · exact .inl ⟨by rw [e2, a2], a1⟩
      · exact .inr ⟨k + 1, Nat.succ_lt_succ hk, by simp only [List.take_succ_cons, e2, t], g,
          a, hsuf.subset ha, hfa⟩
    · exact .inr ⟨0, Nat.zero_lt_succ _, rfl, congrArg some e, hf⟩

theorem pushAll_nil (f : DecF) : f.pushAll [] = (f, []) := rfl

theorem pushAll_cons (f : DecF) (b : UInt8) (bs : List UInt8) :
    f.pushAll (b :: bs) =
      (((f.push b).1.pushAll bs).1, (f.push b).2 :: ((f.push b).1.pushAll bs).2) := rfl

theorem pushAll_eq_run (s : List UInt8) : ∀ f : DecF,
    (f.pushAll s).1 = (f.run (s.map Op.push)).1 ∧
    (f.pushAll s).2.map OpOut.out = (f.run (s.map Op.push)).2 := by
  induction s with
  | nil => intro f; exact ⟨rfl, rfl⟩
  | cons b bs ih =>
    intro f
    rw [pushAll_cons, List.map_cons, run_cons]
    have := ih (f.push b).1
    exact ⟨this.1, by simp only [List.map_cons, this.2]; rfl⟩

theorem run_allTrue (ops : List Op) {f : DecF} (h : AllTrue f.alloc) :
    (f.run ops).2 = (f.d.run ops).2 ∧ (f.run ops).1.d = (f.d.run ops).1 ∧
      AllTrue (f.run ops).1.alloc :=
  let ⟨hs, hr⟩ := run_rel ops f
  have e := hr.resolve_right fun ⟨_, _, _, _, a, ha, hf⟩ => Bool.noConfusion ((h a ha).symm.trans hf)
  ⟨e.1, e.2, h.suffix hs⟩

theorem step_good {f : DecF} (h : Dec.Inv f.d) (op : Op) :
    Dec.Inv (f.step op).1.d ∧ (f.step op).1.d.buf.cap = f.d.buf.cap ∧
      ∀ s, (f.step op).2 ≠ .out (.panic s) :=
  step_transport (fun d o => Dec.Inv d ∧ d.buf.cap = f.d.buf.cap ∧ ∀ s, o ≠ .out (.panic s))
    ⟨Dec.step_inv h op, Dec.step_cap h op, Dec.step_no_panic h op⟩
    fun _ c _ => ⟨Dec.inv_reset (blank c _), rfl, nofun⟩

theorem run_good (ops : List Op) : ∀ {f : DecF}, Dec.Inv f.d →
    Dec.Inv (f.run ops).1.d ∧ (f.run ops).1.d.buf.cap = f.d.buf.cap ∧
      ∀ o ∈ (f.run ops).2, ∀ s, o ≠ OpOut.out (Out.panic s) := by
  induction ops with
  | nil => intro f h; exact ⟨h, rfl, fun _ ho => nomatch ho⟩
  | cons op ops ih =>
    intro f h
    obtain ⟨h1, h2, h3⟩ := step_good h op
    obtain ⟨g1, g2, g3⟩ := ih h1
    rw [run_cons]
    exact ⟨g1, g2.trans h2, List.forall_mem_cons.2 ⟨h3, g3⟩⟩

/-- in the states `LookingForMessageStart` and `Done` an operation never touches the buffer,
hence never the oracle -/
theorem pushByte_idle {f : DecF} (h : (∃ x y, f.d.st = .look x y) ∨ f.d.st = .done) (b : UInt8) :
    f.pushByte b = (⟨(f.d.pushByte b).1, f.alloc⟩, (f.d.pushByte b).2) := by
  rcases f with ⟨⟨raw, crc, st, zc, buf⟩, al⟩
  rcases h with ⟨x, y, rfl⟩ | rfl <;> rfl

theorem step_idle {f : DecF} (h : (∃ x y, f.d.st = .look x y) ∨ f.d.st = .done) (op : Op) :
    f.step op = (⟨(f.d.step op).1, f.alloc⟩, (f.d.step op).2) := by
  cases op with
  | push b =>
    simp only [DecF.step, Dec.step, DecF.push, Dec.push]
    rw [pushByte_idle h b]
    rcases f.d.pushByte b with ⟨d', r⟩
    cases r <;> rfl
  | fin => rfl
  | reset => rfl
  | new => rfl
  | fromBuf stale => rfl

/-- Not by `step_transport`: the simulation does not say which alternative an operation takes,
and a state and its normal form must take the same one.  They do, because `Dec.norm` only
changes states in which no operation touches the buffer (`step_idle`). -/
theorem step_norm (f : DecF) (op : Op) :
    (f.step op).2 = (DecF.step ⟨f.d.norm, f.alloc⟩ op).2 ∧
      (f.step op).1.d.norm = (DecF.step ⟨f.d.norm, f.alloc⟩ op).1.d.norm ∧
      (f.step op).1.alloc = (DecF.step ⟨f.d.norm, f.alloc⟩ op).1.alloc := by
  rcases f with ⟨⟨raw, crc, st, zc, buf⟩, al⟩
  cases st with
  | normal => exact ⟨rfl, rfl, rfl⟩
  | escChars n => exact ⟨rfl, rfl, rfl⟩
  | escPayload step q => exact ⟨rfl, rfl, rfl⟩
  | look x y =>
    have h := Dec.step_norm ⟨raw, crc, .look x y, zc, buf⟩ op
    rw [step_idle (Or.inl ⟨x, y, rfl⟩), step_idle (Or.inl ⟨x, y, rfl⟩)]
    exact ⟨h.1, h.2, rfl⟩
  | done =>
    have h := Dec.step_norm ⟨raw, crc, .done, zc, buf⟩ op
    rw [step_idle (Or.inr rfl), step_idle (Or.inl ⟨0, 0, rfl⟩)]
    exact ⟨h.1, h.2, rfl⟩

/-- equal up to dead fields of the decoder (`Dec.Equiv`, C14), same oracle -/
def Equiv (f g : DecF) : Prop := Dec.Equiv f.d g.d ∧ f.alloc = g.alloc

theorem Equiv.refl (f : DecF) : Equiv f f := ⟨rfl, rfl⟩

theorem step_equiv {f g : DecF} (h : Equiv f g) (op : Op) :
    (f.step op).2 = (g.step op).2 ∧ Equiv (f.step op).1 (g.step op).1 := by
  have h1 := step_norm f op
  have h2 := step_norm g op
  obtain ⟨hd, ha⟩ := h
  unfold Dec.Equiv at hd
  rw [hd, ha] at h1
  exact ⟨h1.1.trans h2.1.symm, h1.2.1.trans h2.2.1.symm, h1.2.2.trans h2.2.2.symm⟩

theorem run_equiv (ops : List Op) : ∀ {f g : DecF}, Equiv f g →
    (f.run ops).2 = (g.run ops).2 ∧ Equiv (f.run ops).1 (g.run ops).1 := by
  induction ops with
  | nil => intro f g h; exact ⟨rfl, h⟩
  | cons op ops ih =>
    intro f g h
    have hs := step_equiv h op
    have := ih hs.2
    rw [run_cons, run_cons]
    exact ⟨by rw [hs.1, this.1], this.2⟩

theorem step_boundary_equiv {f : DecF} (hinv : Dec.Inv f.d) (op : Op)
    (h1 : (f.step op).2 ≠ .out .none) (h2 : ∀ n, (f.step op).2 ≠ .out (.err (.discarded n)))
    (h3 : ∀ s, (f.step op).2 ≠ .out (.panic s)) :
    Equiv (f.step op).1 ⟨Dec.fresh f.d.buf.cap, (f.step op).1.alloc⟩ := by
  refine ⟨?_, rfl⟩
  show Dec.norm _ = Dec.norm _
  rw [Dec.norm_fresh]
  exact step_transport (fun d o => o ≠ .out .none → (∀ n, o ≠ .out (.err (.discarded n))) →
      (∀ s, o ≠ .out (.panic s)) → d.norm = Dec.fresh f.d.buf.cap)
    (Dec.step_boundary_norm hinv op) (fun _ _ _ _ _ _ => rfl) h1 h2 h3

theorem run_after_boundary {f : DecF} (hinv : Dec.Inv f.d) (ops : List Op)
    (h : ∃ o, (f.run ops).2.getLast? = some o ∧ o ≠ .out .none ∧
      (∀ n, o ≠ .out (.err (.discarded n))) ∧ ∀ s, o ≠ .out (.panic s))
    (c : List Op) :
    ((f.run ops).1.run c).2 =
      (DecF.run ⟨Dec.fresh f.d.buf.cap, (f.run ops).1.alloc⟩ c).2 := by
  obtain ⟨o, hlast, h1, h2, h3⟩ := h
  rcases List.eq_nil_or_concat ops with rfl | ⟨ops', op, rfl⟩
  · simp [run_nil] at hlast
  · rw [List.concat_eq_append, run_snoc] at hlast ⊢
    simp only [List.getLast?_append, List.getLast?_singleton, Option.some_or] at hlast
    have ho := Option.some.inj hlast
    have hinv' := (run_good ops' hinv).1
    have := step_boundary_equiv hinv' op (ho ▸ h1) (fun n => ho ▸ h2 n) (fun s => ho ▸ h3 s)
    rw [(run_good ops' hinv).2.1] at this
    exact (run_equiv c this).1

/-- an allocation failure ends the window and the tile of the frame it interrupts -/
theorem winv_step {w c : List UInt8} {f : DecF} {b i : Nat} (h : Dec.WInv w f.d) (hc : w <:+ c)
    (hb : b + w.length = i) (op : Op) :
    (∃ w' b', Dec.WInv w' (f.step op).1.d ∧ w' <:+ Dec.consStep c op ∧
      Spec.tileOpStep b i (f.step op).2 = some (b', i + Spec.pushCount [op]) ∧
      b' + w'.length = i + Spec.pushCount [op]) ∧
    ∀ m, (f.step op).2 = .out (.msg m) → Spec.frame m <:+ Dec.consStep c op := by
  refine step_transport (fun d o => (∃ w' b', Dec.WInv w' d ∧ w' <:+ Dec.consStep c op ∧
      Spec.tileOpStep b i o = some (b', i + Spec.pushCount [op]) ∧
      b' + w'.length = i + Spec.pushCount [op]) ∧
      ∀ m, o = .out (.msg m) → Spec.frame m <:+ Dec.consStep c op)
    ⟨Dec.winv_step h hc hb op, fun m => Dec.step_msg h hc⟩ ?_
  rintro x cr rfl
  exact ⟨⟨[], i + 1, Dec.winv_of_isReset ⟨rfl, rfl, rfl, rfl⟩, List.nil_suffix, rfl, rfl⟩, nofun⟩

theorem winv_run (ops : List Op) : ∀ {w c : List UInt8} {f : DecF} {b i : Nat},
    Dec.WInv w f.d → w <:+ c → b + w.length = i →
    (∃ w' b', Dec.WInv w' (f.run ops).1.d ∧ w' <:+ ops.foldl Dec.consStep c ∧
      Spec.tileOps b i (f.run ops).2 = some (b', i + Spec.pushCount ops) ∧
      b' + w'.length = i + Spec.pushCount ops) ∧
    ∀ j m, (f.run ops).2[j]? = some (.out (.msg m)) →
      Spec.frame m <:+ (ops.take (j + 1)).foldl Dec.consStep c := by
  induction ops with
  | nil => intro w c f b i h hc hb; exact ⟨⟨w, b, h, hc, rfl, hb⟩, fun j m hm => nomatch hm⟩
  | cons op ops ih =>
    intro w c f b i h hc hb
    obtain ⟨⟨w1, b1, g1, g2, g3, g4⟩, gm⟩ := winv_step h hc hb op
    obtain ⟨⟨w2, b2, k1, k2, k3, k4⟩, km⟩ := ih g1 g2 g4
    rw [Dec.pushCount_cons, ← Nat.add_assoc, run_cons]
    refine ⟨⟨w2, b2, k1, k2, by simp only [Spec.tileOps, g3, k3], k4⟩, fun j m hm => ?_⟩
    cases j with
    | zero => exact gm m (Option.some.inj hm)
    | succ j => exact km j m hm

theorem sound_run {f : DecF} (h : Dec.WInv [] f.d) (ops : List Op) (i : Nat) (m : List UInt8)
    (hm : (f.run ops).2[i]? = some (.out (.msg m))) :
    ∃ pre, (ops.take (i + 1)).foldl Dec.consStep [] = pre ++ Spec.frame m :=
  let ⟨pre, hp⟩ := (winv_run ops h (List.suffix_refl []) (b := 0) rfl).2 i m hm
  ⟨pre, hp.symm⟩

theorem pushAll_inv (s : List UInt8) {f : DecF} (h : Dec.Inv f.d) : Dec.Inv (f.pushAll s).1.d := by
  rw [(pushAll_eq_run s f).1]; exact (run_good _ h).1

theorem pushAll_eq_of_run_eq {f : DecF} {s : List UInt8}
    (h2 : (f.run (s.map Op.push)).2 = (f.d.run (s.map Op.push)).2)
    (h1 : (f.run (s.map Op.push)).1.d = (f.d.run (s.map Op.push)).1) :
    (f.pushAll s).2 = (f.d.pushAll s).2 ∧ (f.pushAll s).1.d = (f.d.pushAll s).1 :=
  ⟨map_out_inj (by rw [(pushAll_eq_run s f).2, h2, (Dec.pushAll_eq_run s f.d).2]),
    by rw [(pushAll_eq_run s f).1, h1, (Dec.pushAll_eq_run s f.d).1]⟩

theorem pushAll_allTrue (s : List UInt8) {f : DecF} (h : AllTrue f.alloc) :
    (f.pushAll s).2 = (f.d.pushAll s).2 ∧ (f.pushAll s).1.d = (f.d.pushAll s).1 :=
  let ⟨e2, e1, _⟩ := run_allTrue (s.map Op.push) h
  pushAll_eq_of_run_eq e2 e1

theorem sound_pushAll {w c : List UInt8} {f : DecF} (h : Dec.WInv w f.d) (hc : w <:+ c)
    (s : List UInt8) (i : Nat) (m : List UInt8) (hm : (f.pushAll s).2[i]? = some (Out.msg m)) :
    Spec.frame m <:+ c ++ s.take (i + 1) := by
  have hr : (f.run (s.map Op.push)).2[i]? = some (.out (.msg m)) := by
    rw [← (pushAll_eq_run s f).2, List.getElem?_map, hm]; rfl
  have := (winv_run (s.map Op.push) h hc (b := 0) rfl).2 i m hr
  rwa [← List.map_take, Dec.foldl_consStep_push] at this

end DecF

end Sml
