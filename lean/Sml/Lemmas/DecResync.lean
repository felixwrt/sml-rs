import Sml.Lemmas.DecCap
import Sml.Lemmas.DecRound
import Sml.Lemmas.DecWindow
/-
  Re-synchronisation of the push decoder.  Input that completes no start sequence is consumed
  silently (the window invariant: `Dec.winv_startFree`), and the byte that completes one reports
  what lies before it (`Dec.push_start`), so noise without a start sequence, then a frame, delivers
  the frame (`noise_start`, `noise_frame`); in state `Normal` the start sequence restarts the
  transmission (`restart`), so a frame cut off there, or any input that leaves the decoder silently
  in `Normal`, followed by a frame delivers that frame (`cut_facts`, `resync_after`).  Either way the
  decoder is then in the state `Dec.started cap`, and the rest is answered as by a new decoder that
  was fed the start sequence (`Dec.sync_prefix`).
-/

namespace Sml
open C07

namespace C08

/-- feeding `a` to a new decoder with buffer capacity `cap` never answers `Err(OutOfMemory)` -/
def NoOom (cap : Option Nat) (a : List UInt8) : Prop :=
  Out.err DecErr.oom ∉ (Dec.pushAll (Dec.fresh cap) a).2

instance (cap : Option Nat) (a : List UInt8) : Decidable (NoOom cap a) := by
  unfold NoOom; infer_instance

open Spec (frame) in
/-- if the whole payload fits, no prefix of the frame runs out of memory; for `cap = none` (`Vec`)
this always holds -/
theorem noOom_of_fits (cap : Option Nat) (m : List UInt8) (k : Nat) (h : fitsCap cap m.length) :
    NoOom cap ((frame m).take k) := by
  have hd := Dec.frame_delivered (Dec.fresh cap) m rfl rfl rfl h
  intro hmem
  rw [Dec.pushAll_take, hd.pushAll] at hmem
  have := List.mem_of_mem_take hmem
  simp at this

end C08

namespace Resync
open C08 (NoOom StartFree)

theorem pushAll_of_noOom (cap : Option Nat) (a : List UInt8) (h : NoOom cap a) :
    Dec.pushAll (Dec.fresh cap) a =
      ((Dec.pushAll (Dec.fresh none) a).1.withCapR cap, (Dec.pushAll (Dec.fresh none) a).2) := by
  have e : Dec.fresh cap = (Dec.fresh none).withCapR cap := rfl
  rcases Dec.pushAll_rel cap a (Dec.fresh none) rfl (fitsCap_zero cap) with
    ⟨g1, _⟩ | ⟨i, hi, g1, _⟩
  · rw [e, g1]
  · exfalso
    apply h
    have hmem : Out.err DecErr.oom ∈ (Dec.pushAll (Dec.fresh cap) (a.take (i + 1))).2 := by
      rw [e, g1]; simp
    rw [Dec.pushAll_take] at hmem
    exact List.mem_of_mem_take hmem

open Spec (frame) in
theorem frame_prefix_quiet (m : List UInt8) (k : Nat) (hk : k < (frame m).length) :
    (Dec.pushAll (Dec.fresh none) ((frame m).take k)).2 =
      List.replicate ((frame m).take k).length Out.none := by
  have hd := Dec.frame_delivered (Dec.fresh none) m rfl rfl rfl trivial
  have hal : ((frame m).take k).length = k := by rw [List.length_take]; omega
  rw [Dec.pushAll_take, hd.pushAll, hal,
    List.take_append_of_le_length (by rw [List.length_replicate]; omega), List.take_replicate,
    Nat.min_eq_left (by omega)]

open Spec (frame) in
theorem lt_of_normal (m : List UInt8) (k : Nat)
    (hstate : (Dec.pushAll (Dec.fresh none) ((frame m).take k)).1.st = .normal) :
    k < (frame m).length := by
  refine Nat.lt_of_not_le fun h => ?_
  rw [List.take_of_length_le h,
    (Dec.frame_delivered (Dec.fresh none) m rfl rfl rfl trivial).pushAll] at hstate
  cases hstate

/-- Noise `g` that does not contain the start sequence (also not overlapping with the start
sequence that follows), then the start sequence, from a decoder between transmissions (`WInv []`:
reset, new or `Done`): silence (`winv_startFree`), and at the last byte of the start sequence the
number of noise bytes is reported, nothing if there was no noise (`push_start`).  The decoder is
then in the post-START state. -/
theorem noise_start {d : Dec} (hw : Dec.WInv [] d) (hi : Dec.Inv d) (g : List UInt8)
    (hg : StartFree g) :
    Dec.pushAll d (g ++ START) =
      (Dec.started d.buf.cap,
        List.replicate (g.length + 7) Out.none ++
          [if g = [] then Out.none else Out.err (.discarded g.length)]) := by
  have hsplit : g ++ START = (g ++ START.take 7) ++ [0x01] := by simp [START]
  have hf := C17.startFree_append_partial g hg 7 (by omega)
  obtain ⟨hq, hw'⟩ := Dec.winv_startFree (g ++ START.take 7) hw (by rwa [List.nil_append])
  rw [List.nil_append] at hw'
  have hl : (g ++ START.take 7).length = g.length + 7 := by simp [START]
  rw [hsplit, Dec.pushAll_append, hq, Dec.pushAll_consR, Dec.push_start hw' hf ⟨g, hsplit⟩,
    Dec.pushAll_cap _ hi, hl]
  by_cases hg0 : g = []
  · subst hg0; rfl
  · have : g.length ≠ 0 := fun h => hg0 (List.length_eq_zero_iff.1 h)
    rw [if_neg (by omega), if_neg hg0, Nat.add_sub_cancel]; rfl

open Spec (frame) in
/-- Noise, then a frame, for any decoder between transmissions. -/
theorem noise_frame {d : Dec} (hw : Dec.WInv [] d) (hi : Dec.Inv d) (g m : List UInt8)
    (hg : StartFree g) (hm : fitsCap d.buf.cap m.length) :
    (Dec.pushAll d (g ++ frame m)).2 =
        List.replicate (g.length + 7) Out.none ++
          [if g = [] then Out.none else Out.err (.discarded g.length)] ++
          List.replicate ((frame m).length - 9) Out.none ++ [Out.msg m] ∧
      (Dec.pushAll d (g ++ frame m)).1.st = .done ∧
      (Dec.pushAll d (g ++ frame m)).1.buf.data = m := by
  have h := Dec.sync_frame (noise_start hw hi g hg) m hm
  rw [List.append_assoc, ← Dec.frame_eq_START_drop8] at h
  rw [h]
  exact ⟨by simp only [List.append_assoc], rfl, List.reverse_reverse m⟩

/-- In state `Normal` the start sequence is read as an escape sequence with payload `01010101`:
everything received so far is dropped and reported when its last byte arrives. -/
theorem restart (d : Dec) (hst : d.st = .normal) :
    Dec.pushAll d START =
      ({ d with raw := 8, zc := 0, buf := d.buf.clear, crc := startCrc, st := .normal },
        List.replicate 7 Out.none ++ [Out.err (.discarded d.raw)]) := by
  obtain ⟨r, c, s, z, bf⟩ := d
  simp only at hst
  subst hst
  have h8 : ¬ (r + 1 + 1 + 1 + 1 + 1 + 1 + 1 + 1 < 8) := by omega
  have hr : r + 1 + 1 + 1 + 1 + 1 + 1 + 1 + 1 - 8 = r := by omega
  simp [Dec.pushAll, Dec.push, Dec.pushByte, START, Quad.set, Quad.zero, Dec.pushEscComplete,
    h8, hr, List.replicate]

/-- ... which leaves the post-START state of a new decoder -/
theorem restart_started {d : Dec} (hst : d.st = .normal) :
    Dec.pushAll d START = (Dec.started d.buf.cap,
      List.replicate 7 Out.none ++ [Out.err (.discarded d.raw)]) :=
  restart d hst

open Spec (frame) in
/-- A proper prefix `a` of a frame on which the decoder does not run out of memory: no answer but
`Ok(None)`, so the window is all of `a` (`winv_silent`). -/
theorem cut_window (cap : Option Nat) (m : List UInt8) (k : Nat) (hk : k < (frame m).length)
    (hroom : NoOom cap ((frame m).take k)) :
    (Dec.pushAll (Dec.fresh cap) ((frame m).take k)).2 =
        List.replicate ((frame m).take k).length Out.none ∧
      Dec.WInv ((frame m).take k) (Dec.pushAll (Dec.fresh cap) ((frame m).take k)).1 := by
  have hout : (Dec.pushAll (Dec.fresh cap) ((frame m).take k)).2 =
      List.replicate ((frame m).take k).length Out.none := by
    rw [pushAll_of_noOom cap _ hroom]; exact frame_prefix_quiet m k hk
  exact ⟨hout, Dec.winv_silent _ (Dec.winv_fresh cap) hout⟩

open Spec (frame) in
/-- ... after which the (unbounded) decoder is in state `Normal`: the decoder of capacity `cap` is
in state `Normal` too, `raw_msg_len = |a|`, and `8 ≤ |a|` (the window begins with the start
sequence). -/
theorem cut_facts (cap : Option Nat) (m : List UInt8) (k : Nat)
    (hstate : (Dec.pushAll (Dec.fresh none) ((frame m).take k)).1.st = .normal)
    (hroom : NoOom cap ((frame m).take k)) :
    (Dec.pushAll (Dec.fresh cap) ((frame m).take k)).2 =
        List.replicate ((frame m).take k).length Out.none ∧
      (Dec.pushAll (Dec.fresh cap) ((frame m).take k)).1.st = .normal ∧
      (Dec.pushAll (Dec.fresh cap) ((frame m).take k)).1.raw = ((frame m).take k).length ∧
      (Dec.pushAll (Dec.fresh cap) ((frame m).take k)).1.buf.cap = cap ∧
      8 ≤ ((frame m).take k).length ∧ 8 ≤ k := by
  obtain ⟨hout, hw⟩ := cut_window cap m k (lt_of_normal m k hstate) hroom
  have hst : (Dec.pushAll (Dec.fresh cap) ((frame m).take k)).1.st = .normal := by
    rw [pushAll_of_noOom cap _ hroom]; exact hstate
  have h8 : 8 ≤ ((frame m).take k).length := by
    have h := hw
    simp only [Dec.WInv, hst, Dec.WI] at h
    exact h.1.start.length_le
  exact ⟨hout, hst, hw.raw (by rw [hst]; nofun), Dec.pushAll_cap_fresh cap _, h8,
    by rw [List.length_take] at h8; omega⟩

open Spec (frame) in
/-- Any input `a` after which the decoder is silently in state `Normal` (an unfinished
transmission), followed by a frame: the unfinished part is reported as discarded when the start
sequence is complete, then the frame is delivered. -/
theorem resync_after (d : Dec) (a m : List UInt8)
    (hout : (Dec.pushAll d a).2 = List.replicate a.length Out.none)
    (hst : (Dec.pushAll d a).1.st = .normal)
    (hm : fitsCap (Dec.pushAll d a).1.buf.cap m.length) :
    (Dec.pushAll d (a ++ frame m)).2 =
        List.replicate (a.length + 7) Out.none ++ [Out.err (.discarded (Dec.pushAll d a).1.raw)] ++
          List.replicate ((frame m).length - 9) Out.none ++ [Out.msg m] ∧
      (Dec.pushAll d (a ++ frame m)).1.st = .done ∧
      (Dec.pushAll d (a ++ frame m)).1.buf.data = m := by
  have ha : Dec.pushAll d (a ++ START) = (Dec.started (Dec.pushAll d a).1.buf.cap,
      List.replicate a.length Out.none ++
        (List.replicate 7 Out.none ++ [Out.err (.discarded (Dec.pushAll d a).1.raw)])) := by
    rw [Dec.pushAll_append, restart_started hst, hout]
  have h := Dec.sync_frame ha m hm
  rw [List.append_assoc, ← Dec.frame_eq_START_drop8] at h
  rw [h]
  refine ⟨?_, rfl, List.reverse_reverse m⟩
  simp only [← List.replicate_append_replicate, List.append_assoc]

end Resync
end Sml
