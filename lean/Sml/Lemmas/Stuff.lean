import Sml.Spec.Frame
import Sml.Model.Decode
/-
  Facts about the wire-format specification (`Sml/Spec/Frame.lean`) and about bytes: escape
  stuffing `Spec.stuffFrom` / `Spec.stuff` and the run counter `Spec.ctr` (one byte at a time:
  `stuffFrom_cons`, `ctr_cons`), the pad count `Spec.padLen`, the parts of `Spec.frame`,
  `crcUpdate`, `le16`.  No encoder and no decoder function is mentioned; Model/Decode.lean is
  imported for `START` and `startCrc`.
-/
namespace Sml.Spec

@[simp] theorem stuffFrom_nil (n : Nat) : stuffFrom n [] = [] := rfl

@[simp] theorem ctr_nil (n : Nat) : ctr n [] = n := rfl

theorem stuffFrom_cons_1b_of_ne_three {n : Nat} (h : n ≠ 3) (bs : List UInt8) :
    stuffFrom n (0x1b :: bs) = 0x1b :: stuffFrom (n + 1) bs := by
  simp [stuffFrom, h]

theorem stuffFrom_cons_of_ne {b : UInt8} (h : b ≠ 0x1b) (n : Nat) (bs : List UInt8) :
    stuffFrom n (b :: bs) = b :: stuffFrom 0 bs := by
  simp [stuffFrom, h]

theorem ctr_cons_1b_of_ne_three {n : Nat} (h : n ≠ 3) (bs : List UInt8) :
    ctr n (0x1b :: bs) = ctr (n + 1) bs := by
  simp [ctr, h]

theorem ctr_cons_of_ne {b : UInt8} (h : b ≠ 0x1b) (n : Nat) (bs : List UInt8) :
    ctr n (b :: bs) = ctr 0 bs := by
  simp [ctr, h]

theorem length_ESC : ESC.length = 4 := rfl

theorem length_START : START.length = 8 := rfl

theorem stuffFrom_singleton (n : Nat) (b : UInt8) :
    stuffFrom n [b] = b :: (if b = 0x1b ∧ n = 3 then ESC else []) := by
  by_cases hb : b = 0x1b <;> by_cases h3 : n = 3 <;> simp [stuffFrom, hb, h3]

theorem ctr_singleton (n : Nat) (b : UInt8) :
    ctr n [b] = if b = 0x1b then (if n = 3 then 0 else n + 1) else 0 := by
  by_cases hb : b = 0x1b <;> by_cases h3 : n = 3 <;> simp [ctr, hb, h3]

theorem stuffFrom_cons (n : Nat) (b : UInt8) (bs : List UInt8) :
    stuffFrom n (b :: bs) = stuffFrom n [b] ++ stuffFrom (ctr n [b]) bs := by
  by_cases hb : b = 0x1b <;> by_cases h3 : n = 3 <;> simp [stuffFrom, ctr, hb, h3]

theorem ctr_cons (n : Nat) (b : UInt8) (bs : List UInt8) : ctr n (b :: bs) = ctr (ctr n [b]) bs := by
  by_cases hb : b = 0x1b <;> by_cases h3 : n = 3 <;> simp [ctr, hb, h3]

theorem ctr_lt_4 {n : Nat} (h : n < 4) (q : List UInt8) : ctr n q < 4 := by
  induction q generalizing n with
  | nil => exact h
  | cons b bs ih =>
    rw [ctr_cons]
    exact ih (by rw [ctr_singleton]; (repeat' split) <;> omega)

theorem ctr_append (n : Nat) (a b : List UInt8) : ctr n (a ++ b) = ctr (ctr n a) b := by
  induction a generalizing n with
  | nil => rfl
  | cons x xs ih => rw [List.cons_append, ctr_cons, ih, ← ctr_cons]

theorem ctr_of_head_ne (n m : Nat) {q : List UInt8} (h : q.head? ≠ some 0x1b) (hq : q ≠ []) :
    ctr n q = ctr m q := by
  cases q with
  | nil => exact absurd rfl hq
  | cons b bs =>
    have hb : b ≠ 0x1b := by simpa using h
    rw [ctr_cons_of_ne hb, ctr_cons_of_ne hb]

theorem stuffFrom_append (n : Nat) (a b : List UInt8) :
    stuffFrom n (a ++ b) = stuffFrom n a ++ stuffFrom (ctr n a) b := by
  induction a generalizing n with
  | nil => rfl
  | cons x xs ih =>
    rw [List.cons_append, stuffFrom_cons, ih, ← List.append_assoc, ← stuffFrom_cons, ← ctr_cons]

/-- every inserted escape is four bytes long -/
theorem length_stuffFrom (n : Nat) (q : List UInt8) :
    ∃ k, (stuffFrom n q).length = q.length + 4 * k := by
  induction q generalizing n with
  | nil => exact ⟨0, rfl⟩
  | cons b bs ih =>
    obtain ⟨k, hk⟩ := ih (ctr n [b])
    rw [stuffFrom_cons, List.length_append, List.length_cons, hk, stuffFrom_singleton]
    split
    · exact ⟨k + 1, by rw [List.length_cons, length_ESC]; omega⟩
    · exact ⟨k, by rw [List.length_singleton]; omega⟩

theorem length_le_length_stuffFrom (n : Nat) (q : List UInt8) :
    q.length ≤ (stuffFrom n q).length :=
  let ⟨_, h⟩ := length_stuffFrom n q
  h ▸ Nat.le_add_right _ _

theorem stuffFrom_of_head_ne (n : Nat) {q : List UInt8} (h : q.head? ≠ some 0x1b) :
    stuffFrom n q = stuffFrom 0 q := by
  cases q with
  | nil => rfl
  | cons b bs =>
    have hb : b ≠ 0x1b := by simpa using h
    rw [stuffFrom_cons_of_ne hb, stuffFrom_cons_of_ne hb]

theorem stuffFrom_of_no_1b (n : Nat) {q : List UInt8} (h : ∀ b ∈ q, b ≠ 0x1b) :
    stuffFrom n q = q := by
  induction q generalizing n with
  | nil => rfl
  | cons b bs ih =>
    have hb : b ≠ 0x1b := h b (by simp)
    rw [stuffFrom_cons_of_ne hb, ih 0 (fun x hx => h x (by simp [hx]))]

theorem ctr_snoc_of_ne {x : UInt8} (hx : x ≠ 0x1b) (n : Nat) (a : List UInt8) :
    ctr n (a ++ [x]) = 0 := by
  rw [ctr_append, ctr_cons_of_ne hx, ctr_nil]

theorem ctr_replicate_zero (n k : Nat) (hk : 0 < k) : ctr n (List.replicate k 0) = 0 := by
  obtain ⟨k, rfl⟩ : ∃ j, k = j + 1 := ⟨k - 1, by omega⟩
  rw [List.replicate_succ']
  exact ctr_snoc_of_ne (by decide) n _

/-- a run of `r` bytes `0x1b`, entered with run counter `n < 4`, gets one escape after every
fourth byte of the (extended) run -/
theorem stuffFrom_replicate_1b {n : Nat} (hn : n < 4) (r : Nat) :
    stuffFrom n (List.replicate r 0x1b) = List.replicate (r + 4 * ((n + r) / 4)) 0x1b := by
  induction r generalizing n with
  | zero => rw [Nat.add_zero, Nat.div_eq_of_lt hn]; rfl
  | succ r ih =>
    rw [List.replicate_succ, stuffFrom_cons, stuffFrom_singleton, ctr_singleton, if_pos rfl]
    by_cases h3 : n = 3
    · subst h3
      have (x : Nat) : r + 1 + 4 * (x + 1) = (4 + (r + 4 * x)) + 1 := by omega
      rw [if_pos ⟨rfl, rfl⟩, if_pos rfl, ih (by omega), show 3 + (r + 1) = 0 + r + 4 by omega,
        Nat.add_div_right _ (by decide), this, List.replicate_succ,
        show ESC = List.replicate 4 0x1b from rfl, List.cons_append,
        List.replicate_append_replicate]
    · rw [if_neg (fun h => h3 h.2), if_neg h3, ih (by omega), show n + (r + 1) = n + 1 + r by omega,
        Nat.add_right_comm r 1, List.replicate_succ]
      rfl

theorem ctr_replicate_1b {n : Nat} (hn : n < 4) (r : Nat) :
    ctr n (List.replicate r 0x1b) = (n + r) % 4 := by
  induction r generalizing n with
  | zero => exact (Nat.mod_eq_of_lt hn).symm
  | succ r ih =>
    rw [List.replicate_succ, ctr_cons, ctr_singleton, if_pos rfl]
    by_cases h3 : n = 3
    · rw [if_pos h3, ih (by omega), h3, show 3 + (r + 1) = 0 + r + 4 by omega, Nat.add_mod_right]
    · rw [if_neg h3, ih (by omega), show n + 1 + r = n + (r + 1) by omega]

@[simp] theorem stuff_nil : stuff [] = [] := rfl

theorem stuff_append (a b : List UInt8) : stuff (a ++ b) = stuff a ++ stuffFrom (ctr 0 a) b :=
  stuffFrom_append 0 a b

theorem stuff_snoc_of_ne {x : UInt8} (hx : x ≠ 0x1b) (a : List UInt8) :
    stuff (a ++ [x]) = stuff a ++ [x] ∧ ctr 0 (a ++ [x]) = 0 := by
  constructor
  · rw [stuff_append, stuffFrom_cons_of_ne hx, stuffFrom_nil]
  · exact ctr_snoc_of_ne hx 0 a

/-- `ctr 0 a = 0`: `a` does not end inside a run of `0x1b`; then up to three more are copied -/
theorem stuff_few {a : List UInt8} (ha : ctr 0 a = 0) {k : Nat} (hk : k ≤ 3) :
    stuff (a ++ List.replicate k 0x1b) = stuff a ++ List.replicate k 0x1b := by
  rw [stuff_append, ha, stuffFrom_replicate_1b (by omega), show (0 + k) / 4 = 0 by omega]
  rfl

/-- a literal escape: four `0x1b` bytes of payload are eight on the wire -/
theorem stuff_four {a : List UInt8} (ha : ctr 0 a = 0) :
    stuff (a ++ List.replicate 4 0x1b) = stuff a ++ List.replicate 8 0x1b ∧
      ctr 0 (a ++ List.replicate 4 0x1b) = 0 := by
  constructor
  · rw [stuff_append, ha, stuffFrom_replicate_1b (by omega)]
  · rw [ctr_append, ha, ctr_replicate_1b (by omega)]

theorem stuff_run_ne {x : UInt8} (hx : x ≠ 0x1b) {a : List UInt8} (ha : ctr 0 a = 0) {n : Nat}
    (hn : n ≤ 3) :
    stuff (a ++ List.replicate n 0x1b ++ [x]) = stuff a ++ (List.replicate n 0x1b ++ [x]) ∧
      ctr 0 (a ++ List.replicate n 0x1b ++ [x]) = 0 :=
  ⟨by rw [stuff_append, stuff_few ha hn, stuffFrom_cons_of_ne hx, stuffFrom_nil,
      List.append_assoc],
    (stuff_snoc_of_ne hx _).2⟩

theorem stuff_zeros (m : List UInt8) (p : Nat) :
    stuff (m ++ List.replicate p 0) = stuff m ++ List.replicate p 0 := by
  rw [stuff_append, stuffFrom_of_no_1b _ fun b hb => by rw [List.eq_of_mem_replicate hb]; decide]

theorem padLen_lt_4 (n : Nat) : padLen n < 4 := by
  unfold padLen; omega

theorem padLen_spec (n : Nat) : (n + padLen n) % 4 = 0 := by
  unfold padLen; omega

theorem padLen_congr {n m : Nat} (h : n % 4 = m % 4) : padLen n = padLen m := by
  unfold padLen; rw [h]

theorem padLen_le {n k : Nat} (h : (n + k) % 4 = 0) : padLen n ≤ k := by
  unfold padLen; omega

theorem padLen_add_mul4 (n k : Nat) : padLen (n + 4 * k) = padLen n := padLen_congr (by omega)

/-- the pad count of a frame depends only on the payload length -/
theorem padLen_START_stuff (p : List UInt8) :
    padLen (START ++ stuff p).length = padLen p.length := by
  obtain ⟨k, hk⟩ := length_stuffFrom 0 p
  rw [List.length_append, length_START, stuff, hk]
  exact padLen_congr (by omega)

end Sml.Spec

namespace Sml

/-- `Sml.START` (Model/Decode.lean, what the decoder matches) and `Spec.START` (Spec/Frame.lean, what
the specification prescribes) are written down independently and are the same list -/
theorem START_eq_spec : Sml.START = Spec.START := rfl

theorem crcUpdate_append3 (c : UInt16) (x y z : List UInt8) :
    crcUpdate (crcUpdate (crcUpdate c x) y) z = crcUpdate c (x ++ y ++ z) := by
  rw [crcUpdate_append, crcUpdate_append]

theorem length_le16 (x : UInt16) : (le16 x).length = 2 := rfl

section
open Spec (stuff padLen ESC frame framePrefix)

theorem frame_eq_parts (p : List UInt8) :
    frame p =
      Spec.START ++ (stuff p ++ (List.replicate (padLen (Spec.START ++ stuff p).length) 0 ++
        ([0x1b, 0x1b, 0x1b, 0x1b, 0x1a, UInt8.ofNat (padLen (Spec.START ++ stuff p).length)] ++
          le16 (crc16 (framePrefix p))))) := by
  simp [frame, framePrefix, ESC]

theorem framePrefix_eq_parts (p : List UInt8) :
    framePrefix p =
      Spec.START ++ stuff p ++ List.replicate (padLen (Spec.START ++ stuff p).length) 0 ++
        [0x1b, 0x1b, 0x1b, 0x1b, 0x1a, UInt8.ofNat (padLen (Spec.START ++ stuff p).length)] := by
  simp [framePrefix, ESC]

/-- the checksum of a frame as both encoders and the decoder accumulate it: from `startCrc` over
payload, padding and end sequence -/
theorem Spec.crc_framePrefix (p : List UInt8) :
    crc16 (framePrefix p) =
      crcFinal (crcUpdate (crcUpdate (crcUpdate startCrc (stuff p))
        (List.replicate (padLen (Spec.START ++ stuff p).length) 0))
        [0x1b, 0x1b, 0x1b, 0x1b, 0x1a, UInt8.ofNat (padLen (Spec.START ++ stuff p).length)]) := by
  rw [framePrefix_eq_parts, crc16, startCrc, START_eq_spec, crcUpdate_append3, ← crcUpdate_append]
  simp only [List.append_assoc]

/-- start (8) + stuffed payload + padding + end escape, `1a`, pad count (6) + CRC (2) -/
theorem length_frame (p : List UInt8) :
    (frame p).length = (stuff p).length + padLen (Spec.START ++ stuff p).length + 16 := by
  rw [frame_eq_parts]
  simp [Spec.length_START, length_le16]
  omega

theorem length_frame_mod4 (p : List UInt8) : (frame p).length % 4 = 0 := by
  have h := Spec.padLen_spec (Spec.START ++ stuff p).length
  rw [length_frame]
  simp only [List.length_append, Spec.length_START] at h ⊢
  omega

end

/-- `to_le_bytes(from_le_bytes([lo, hi])) = [lo, hi]`: bit `i` of the low byte is bit `i` of `lo`
(the shifted `hi` has none there), bit `i` of the high byte is bit `8 + i` of the shifted `hi` -/
theorem le16_ofLe16 (lo hi : UInt8) : le16 (ofLe16 lo hi) = [lo, hi] := by
  unfold le16 ofLe16
  congr 1
  · apply UInt8.eq_of_toBitVec_eq
    simp only [UInt16.toBitVec_toUInt8, UInt16.toBitVec_or, UInt8.toBitVec_toUInt16,
      UInt16.toBitVec_shiftLeft]
    ext i hi'
    simp
  · congr 1
    apply UInt8.eq_of_toBitVec_eq
    simp only [UInt16.toBitVec_toUInt8, UInt16.toBitVec_or, UInt8.toBitVec_toUInt16,
      UInt16.toBitVec_shiftLeft, UInt16.toBitVec_shiftRight]
    ext i hi'
    have h1 : 8 + i < 16 := by omega
    have h2 : ¬ 8 + i < 8 := by omega
    have h3 : i < 16 := by omega
    simp [h1, h2, h3, BitVec.getLsbD_eq_getElem hi']

theorem ofLe16_le16 (x : UInt16) : ofLe16 x.toUInt8 (x >>> 8).toUInt8 = x := by
  unfold ofLe16
  apply UInt16.eq_of_toBitVec_eq
  simp only [UInt16.toBitVec_or, UInt8.toBitVec_toUInt16, UInt16.toBitVec_toUInt8,
    UInt16.toBitVec_shiftLeft, UInt16.toBitVec_shiftRight]
  ext i hi
  simp [BitVec.getElem_setWidth, BitVec.getLsbD_setWidth]
  by_cases h : i < 8
  · simp [h, BitVec.getLsbD_eq_getElem hi]
  · have h1 : i - 8 < 8 := by omega
    have h2 : 8 + (i - 8) = i := by omega
    simp [h, h1, h2, BitVec.getLsbD_eq_getElem hi]

/-- the check value of CRC-16/X.25 (IBM-SDLC) from the CRC catalogue: ASCII `"123456789"` -/
theorem crc16_check_value :
    crc16 [0x31, 0x32, 0x33, 0x34, 0x35, 0x36, 0x37, 0x38, 0x39] = 0x906E := by
  decide +kernel

example : crc16 [0x31, 0x32, 0x33, 0x34, 0x35, 0x36, 0x37, 0x38, 0x39] = 0x906E :=
  crc16_check_value

/-- the empty message: init xor xorout -/
theorem crc16_nil : crc16 [] = 0x0000 := by decide +kernel

end Sml
