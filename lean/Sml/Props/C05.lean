import Sml.Lemmas.Rdr
import Sml.Lemmas.FrameEncoders
/-
  Property C05.

  "Every transport entry point (both encoders, the push decoder with finalize and reset, decode,
  decode_streaming and the reader front-ends) returns normally for every input and every order of
  calls: it never panics, aborts, loops or overflows an internal counter, whatever the stream
  length, the length of a noise run or the buffer capacity.  Every failure is reported as an
  error value, after which the same object remains usable."

  * model : `Dec` (Sml/Model/Decode.lean), `Dec.run` / `decodeAll` / `DecIter` / `Rdr`
            (Sml/Model/Frontends.lean), `Enc` / `encodeBuf` (Sml/Model/Encode.lean).
    Every Rust panic site (checked u8 / usize arithmetic, array indexing, `borrow_buf` guard,
    `assert_eq!`, `unreachable!`) is an explicit `panic` outcome of the model; the theorems say
    that no such outcome is ever produced.
  * invariant : `Dec.Inv` (Sml/Lemmas/DecInv.lean):
      `zc ≤ 4`, `Buf.WF` (length ≤ capacity), and per state
      - `look disc init` : `init ≤ 7 ∧ zc = 0 ∧ buf.rdata = [] ∧ raw = disc + init`
      - `normal`         : `buf.len + zc + 8 ≤ raw`
      - `escChars n`     : `1 ≤ n ≤ 3 ∧ buf.len + zc + n + 8 ≤ raw`
      - `escPayload k _` : `k ≤ 3 ∧ buf.len + zc + k + 12 ≤ raw`
      - `done`           : `buf.len + 16 ≤ raw`
    so outside `look` always `8 ≤ raw` (`Dec.Inv.raw_ge`).
  * termination : every model function used here (`Dec.pushByte`, `Dec.push`, `Dec.finalize`,
    `Dec.reset`, `Dec.run`, `Dec.pushAll`, `decodeAll`, `DecIter.pull` / `next` / `take`,
    `Rdr.readLoop` / `read` / `next` / `readNb` / `nextNb` / `calls`, `Enc.next` / `Enc.run`,
    `encodeBuf` / `encodeLoop`) is a total Lean function accepted by structural recursion: no
    `partial`, no fuel.  (`Enc.run` takes the *number of calls* as its argument; that is the
    history length, not fuel.)  The only loops of the Rust code, `DecodeIterator::next` and
    `DecoderReader::read`, consume one input byte / source event per iteration (`DecIter.pull`,
    `Rdr.readLoop` recurse on the remaining input); the self-call of `push_byte` in state `Done`
    happens at most once (unfolded in `Dec.pushByte`; its second `Done` arm is a panic outcome,
    which is excluded below).
  * `encodeBuf : Option Nat → List UInt8 → EncRes` is total; its only panic site, the slice index
    `&[0x0; 3][..num_padding_bytes]` (encode.rs:204; the model's label says 203), is the explicit
    outcome `EncRes.panic`, excluded by `encodeBuf_no_panic`; C07 shows which of the two remaining results it returns.
    The index `crc_bytes[(n - 6) as usize]` of the iterator encoder (encode.rs:121) is the explicit
    outcome `EOut.panic "encode.rs:121 …"`, covered by `encoder_total`.

  All theorems hold for every stream / history length and every buffer capacity (`cap = none` is
  `Vec<u8>`, `cap = some n` is `ArrayBuf<n>`).
-/
namespace Sml.C05

/-- the decoder state invariant (see the header) -/
abbrev Inv : Dec → Prop := Dec.Inv

theorem inv_fresh (cap : Option Nat) : Inv (Dec.fresh cap) := Dec.inv_fresh cap

theorem inv_pushByte {d : Dec} (h : Inv d) (b : UInt8) :
    Inv (d.pushByte b).1 ∧ (d.pushByte b).1.buf.cap = d.buf.cap ∧
      (d.pushByte b).1.raw ≤ d.raw + 1 ∧ ∀ s, (d.pushByte b).2 ≠ Res.panic s :=
  Dec.pushByte_good h b

theorem inv_push {d : Dec} (h : Inv d) (b : UInt8) :
    Inv (d.push b).1 ∧ (d.push b).1.buf.cap = d.buf.cap ∧ ∀ s, (d.push b).2 ≠ Out.panic s :=
  ⟨Dec.push_inv h b, Dec.push_cap h b, Dec.push_no_panic h b⟩

/-- `finalize` and `reset` have no panic outcome by type (`Option DecErr`, `Nat`); they establish
the invariant from *any* state and keep the capacity -/
theorem inv_finalize (d : Dec) : Inv d.finalize.1 ∧ d.finalize.1.buf.cap = d.buf.cap :=
  ⟨Dec.inv_reset d, rfl⟩

theorem inv_reset (d : Dec) : Inv d.reset.1 ∧ d.reset.1.buf.cap = d.buf.cap :=
  ⟨Dec.inv_reset d, rfl⟩

/-- consequences of the invariant that bound the counters -/
theorem inv_bounds {d : Dec} (h : Inv d) :
    d.zc ≤ 4 ∧ d.buf.WF ∧ d.buf.len + d.zc ≤ d.raw ∧
      ((∀ disc init, d.st ≠ .look disc init) → 8 ≤ d.raw) ∧
      (∀ disc init, d.st = .look disc init →
        init ≤ 7 ∧ d.zc = 0 ∧ d.buf.rdata = [] ∧ d.raw = disc + init) ∧
      (∀ n, d.st = .escChars n → 1 ≤ n ∧ n ≤ 3) ∧
      (∀ step q, d.st = .escPayload step q → step ≤ 3) :=
  ⟨h.zc_le, h.wf, h.len_le_raw, h.raw_ge, fun _ _ hs => h.look hs,
    fun _ hs => ⟨(h.escChars hs).1, (h.escChars hs).2.1⟩, fun _ _ hs => (h.escPayload hs).1⟩

/-- no call in any history panics -/
theorem no_panic (cap : Option Nat) (ops : List Op) :
    ∀ o ∈ (Dec.run (Dec.fresh cap) ops).2, ∀ s, o ≠ OpOut.out (Out.panic s) :=
  Dec.run_no_panic ops (Dec.inv_fresh cap)

/-- after any history (in particular after any error) the decoder satisfies the invariant again,
i.e. it is as usable as before; all failures are `Out.err` / `OpOut.fin` values -/
theorem inv_reachable (cap : Option Nat) (ops : List Op) :
    Inv (Dec.run (Dec.fresh cap) ops).1 :=
  Dec.run_inv ops (Dec.inv_fresh cap)

/-- the buffer capacity never changes -/
theorem cap_reachable (cap : Option Nat) (ops : List Op) :
    (Dec.run (Dec.fresh cap) ops).1.buf.cap = cap :=
  Dec.run_cap ops (Dec.inv_fresh cap)

/-- every call answers: one result per operation -/
theorem run_length (cap : Option Nat) (ops : List Op) :
    (Dec.run (Dec.fresh cap) ops).2.length = ops.length :=
  Dec.run_length ops _

/-- `decode` -/
theorem decodeAll_no_panic (s : List UInt8) : ∀ x ∈ decodeAll s, ∀ t, x ≠ Item.panic t := by
  unfold decodeAll
  rw [decodeAll_go_eq s (Dec.inv_fresh none)]
  exact Dec.allItems_no_panic (Dec.inv_fresh none) s

/-- `decode_streaming`: any number of `next` calls, also after the end -/
theorem iter_no_panic (cap : Option Nat) (s : List UInt8) (n : Nat) :
    ∀ x ∈ (DecIter.new cap s).take n, ∀ t, x ≠ some (Item.panic t) := by
  intro x hx t hc
  rw [DecIter.take_new, padTo] at hx
  rcases List.mem_append.1 (List.mem_of_mem_take hx) with hx | hx
  · obtain ⟨y, hy, rfl⟩ := List.mem_map.1 hx
    exact Dec.allItems_no_panic (Dec.inv_fresh cap) s y hy t (Option.some.inj hc)
  · rw [List.eq_of_mem_replicate hx] at hc
    cases hc

/-- `DecoderReader` over any source kind, any sequence of source events (bytes, `WouldBlock`,
`Interrupted`, other I/O errors, end of input — also mid-stream, `Ev.eof`, with more data
afterwards) and any sequence of `read` / `next` / `read_nb` / `next_nb` calls -/
theorem reader_no_panic (kind : SrcKind) (cap : Option Nat) (evs : List Ev) (cs : List Rdr.Call) :
    ∀ x ∈ ((Rdr.new kind cap evs).calls cs).2, ∀ t, x ≠ RItem.panic t :=
  (Rdr.calls_good cs (r := Rdr.new kind cap evs) (Dec.inv_fresh cap)).2

/-- ... and the decoder inside the reader stays usable -/
theorem reader_inv (kind : SrcKind) (cap : Option Nat) (evs : List Ev) (cs : List Rdr.Call) :
    Inv ((Rdr.new kind cap evs).calls cs).1.dec :=
  (Rdr.calls_good cs (r := Rdr.new kind cap evs) (Dec.inv_fresh cap)).1

/-- the iterator encoder: any number of `next` calls, including calls after `None` -/
theorem encoder_total (p : List UInt8) (n : Nat) :
    ∀ o ∈ ((Enc.new p).run n).2, ∀ s, o ≠ EOut.panic s :=
  Enc.run_new_no_panic p n

/-- the buffer encoder: the padding slice `&[0x0; 3][..num_padding_bytes]` (encode.rs:204) is
always in range, for every payload and every buffer capacity -/
theorem encodeBuf_no_panic (cap : Option Nat) (p : List UInt8) :
    ∀ s, encodeBuf cap p ≠ EncRes.panic s := by
  intro s
  rw [encodeBuf_eq]
  unfold finish
  split <;> simp

/-- one answer per call -/
theorem encoder_run_length (p : List UInt8) (n : Nat) : ((Enc.new p).run n).2.length = n := by
  generalize Enc.new p = e
  induction n generalizing e with
  | zero => rfl
  | succ n ih => rw [Enc.run_succ]; simp [ih]

/-- noise, a reset, noise again, a finalize: errors are values, the decoder keeps answering -/
example : (Dec.run (Dec.fresh (some 4))
      [.push 0x00, .push 0x1b, .reset, .push 0x07, .fin, .fin]).2 =
    [.out .none, .out .none, .reset 2, .out .none, .fin (some (.discarded 1)), .fin none] := by
  decide

/-- a `from_buf` whose buffer is full of stale bytes, and a `new`, in mid-history -/
example : (Dec.run (Dec.fresh (some 2))
      [.push 0x00, .push 0x1b, .fromBuf [7, 8], .push 0x07, .reset, .new, .fin]).2 =
    [.out .none, .out .none, .fromBuf, .out .none, .reset 1, .new, .fin none] := by
  decide

/-- out-of-memory with `ArrayBuf<1>`: an error value, afterwards the decoder accepts bytes again -/
example : (Dec.run (Dec.fresh (some 1))
      ([0x1b, 0x1b, 0x1b, 0x1b, 0x01, 0x01, 0x01, 0x01, 0x05, 0x06, 0x07].map Op.push)).2 =
    List.replicate 9 (.out .none) ++ [.out (.err .oom), .out .none] := by
  decide +kernel

/-- an invalid escape sequence is an error value; `reader` then reports end of input -/
example : ((Rdr.new .io none
      ([0x1b, 0x1b, 0x1b, 0x1b, 0x01, 0x01, 0x01, 0x01, 0x1b, 0x1b, 0x1b, 0x1b, 0x02, 0x00, 0x00,
        0x00].map Ev.byte ++ [.interrupted, .byte 0x09, .other])).calls
      [.next, .readNb, .next, .nextNb]).2 =
    [.decErr (.invalidEsc 0x02 0x00 0x00 0x00), .ioErr .other 1, .none, .none] := by
  decide +kernel

/-- mid-stream ends of input (all three source kinds), then more data -/
example : ((Rdr.new .io (some 2) [.byte 0x1b, .eof, .eof, .byte 0x07]).calls
      [.next, .read, .nextNb, .next]).2 =
    [.ioErr .eof 1, .ioErr .eof 0, .ioErr .eof 1, .none] := by
  decide +kernel

example : ((Rdr.new .eh (some 2) [.byte 0x1b, .eof, .eof, .byte 0x07]).calls
      [.next, .read, .nextNb, .next]).2 =
    [.ioErr .other 1, .ioErr .other 0, .nbWouldBlock, .ioErr .wouldBlock 0] := by
  decide +kernel

/-- the encoder after its end -/
example : ((Enc.new []).run 18).2.drop 16 = [.none, .none] := by decide +kernel

/-- the encoder passes both CRC index positions (`End(6)`, `End(7)`) -/
example : ((Enc.new []).run 16).2.drop 14 = [.byte 0xc6, .byte 0xe5] := by decide +kernel

/-- the buffer encoder with all four pad counts, and out of memory in the padding step -/
example : (encodeBuf none [1]) = EncRes.ok (Spec.frame [1]) ∧
    (encodeBuf none [1, 2]) = EncRes.ok (Spec.frame [1, 2]) ∧
    (encodeBuf none [1, 2, 3]) = EncRes.ok (Spec.frame [1, 2, 3]) ∧
    (encodeBuf none [1, 2, 3, 4]) = EncRes.ok (Spec.frame [1, 2, 3, 4]) ∧
    encodeBuf (some 10) [1] = EncRes.oom := by decide +kernel

end Sml.C05
