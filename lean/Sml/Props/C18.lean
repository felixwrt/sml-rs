/-
  Property C18 (src/util.rs:79-150).

  "For every capacity N and every sequence of push, extend_from_slice, truncate and clear
   operations, an ArrayBuf<N> exposes the same contents and returns the same success /
   out-of-memory results as an ideal byte vector limited to N elements, and a failing operation
   leaves the contents unchanged.  Collecting an iterator of at most N bytes yields exactly those
   bytes, and equality and Debug output depend only on the visible contents."

  Definitions (`BOp`, `ArrayBuf.apply`, `IdealVec.apply`, `abs`, `WF`, `ArrayBuf.run`, ...) and
  helper lemmas are in `Sml/Lemmas/ArrayBuf.lean`.
-/
import Sml.Lemmas.ArrayBuf

namespace Sml.C18
open Sml

/-- One operation on a well-formed `ArrayBuf` refines the same operation on the ideal vector
    with the same capacity and contents: success ↔ success with equal resulting contents (and the
    invariant and `N` are preserved); ideal failure ↔ `oom`, in which case Rust leaves `self`
    untouched.  In particular no operation panics. -/
theorem step_refines (a : ArrayBuf) (op : BOp) (h : WF a) :
    (∀ v', IdealVec.apply ⟨a.N, abs a⟩ op = some v' →
      ∃ a', ArrayBuf.apply a op = .ok a' ∧ WF a' ∧ a'.N = a.N ∧ abs a' = v'.data) ∧
    (IdealVec.apply ⟨a.N, abs a⟩ op = none → ArrayBuf.apply a op = .oom) ∧
    (∀ s, ArrayBuf.apply a op ≠ .panic s) := by
  rcases apply_cases h op with ⟨a', h1, h2, h3, h4⟩ | ⟨h1, h4⟩ <;> rw [h1, h4]
  · exact ⟨fun v' hv => by cases hv; exact ⟨a', rfl, h2, h3, rfl⟩, nofun, nofun⟩
  · exact ⟨nofun, fun _ => rfl, nofun⟩

/-- For every capacity `N` and every operation sequence, starting from `ArrayBuf::default()`
    and the empty ideal vector of capacity `N`:
    * the lists of result tags (ok / oom) are equal,
    * the visible contents after every single operation equal the ideal contents (on `oom` both
      sides keep their previous state, so a failing operation leaves the contents unchanged),
    * the run never stops early, i.e. no panic (one recorded step per operation),
    * the final visible contents equal the final ideal contents,
    * in every reachable state (the initial one and the one after each operation) `deref` succeeds
      with exactly the visible contents, and `num_elements ≤ N = buffer.len()`. -/
theorem run_refines (N : Nat) (ops : List BOp) :
    (ArrayBuf.run (ArrayBuf.new N) ops).map (·.1) = (IdealVec.run (IdealVec.new N) ops).map (·.1) ∧
    (ArrayBuf.run (ArrayBuf.new N) ops).map (fun p => abs p.2)
      = (IdealVec.run (IdealVec.new N) ops).map (fun p => p.2.data) ∧
    (ArrayBuf.run (ArrayBuf.new N) ops).length = ops.length ∧
    abs (ArrayBuf.final (ArrayBuf.new N) ops) = (IdealVec.final (IdealVec.new N) ops).data ∧
    (∀ a ∈ ArrayBuf.new N :: (ArrayBuf.run (ArrayBuf.new N) ops).map (·.2),
      a.deref = .ok (abs a) ∧ a.numElements ≤ N ∧ a.buffer.length = N) ∧
    (∀ p ∈ ArrayBuf.run (ArrayBuf.new N) ops, p.1 ≠ Tag.panic) := by
  have h := run_refines_from ops (WF_new N)
  rw [N_new, abs_new] at h
  obtain ⟨h1, h2, h3, h4, h5⟩ := h
  have hst : ∀ a : ArrayBuf, WF a → a.N = N →
      a.deref = .ok (abs a) ∧ a.numElements ≤ N ∧ a.buffer.length = N :=
    fun a hw hN => ⟨deref_of_WF hw, hN ▸ hw, hN⟩
  refine ⟨h1, h2, h3, h4, List.forall_mem_cons.2 ⟨hst _ (WF_new N) (N_new N), fun a ha => ?_⟩,
    fun p hp => (h5 p hp).1⟩
  obtain ⟨p, hp, rfl⟩ := List.mem_map.1 ha
  exact hst _ (h5 p hp).2.1 (h5 p hp).2.2

/-- Collecting more than `N` bytes panics (`push(x).unwrap()`, test `test_from_panic`). -/
theorem fromIter_overflow (N : Nat) (xs : List UInt8) (h : N < xs.length) :
    ∃ s, ArrayBuf.fromIter N xs = .panic s :=
  (fromIter_go_cases xs (WF_new N)).2 (by rw [N_new]; simpa [ArrayBuf.new] using h)

/-- `==` and `Debug` depend only on the visible contents (never on stale bytes or on `N`),
    and `==` is exactly equality of the visible contents. -/
theorem eq_debug_visible_only (a b a' b' : ArrayBuf)
    (ha : WF a) (hb : WF b) (ha' : WF a') (hb' : WF b')
    (hab : abs a = abs a') (hbb : abs b = abs b') :
    ArrayBuf.eqv a b = ArrayBuf.eqv a' b' ∧
    ArrayBuf.debugRepr a = ArrayBuf.debugRepr a' ∧
    ArrayBuf.eqv a b = .ok (decide (abs a = abs b)) := by
  refine ⟨?_, ?_, eqv_of_WF ha hb⟩
  · rw [eqv_of_WF ha hb, eqv_of_WF ha' hb', hab, hbb]
  · unfold ArrayBuf.debugRepr; rw [deref_of_WF ha, deref_of_WF ha', hab]

/-- The abstract `Buf` used by the codec models agrees with the ideal vector.
    Bounded case (`cap = some N`): every operation returns `some`/`none` exactly when the ideal
    vector does, with the same resulting contents; `cap` and the bound `data.length ≤ N` are
    preserved.  Unbounded case (`cap = none`, `Vec<u8>`): push / extend always succeed. -/
theorem buf_refines (b : Buf) :
    (∀ N, b.cap = some N → b.data.length ≤ N →
      (∀ x, (b.push x).map Buf.data = (IdealVec.push ⟨N, b.data⟩ x).map IdealVec.data) ∧
      (∀ s, (b.extend s).map Buf.data = (IdealVec.extend ⟨N, b.data⟩ s).map IdealVec.data) ∧
      (∀ k, (b.truncate k).data = (IdealVec.truncate ⟨N, b.data⟩ k).data) ∧
      b.clear.data = (IdealVec.clear ⟨N, b.data⟩).data ∧
      (∀ op b', Buf.apply b op = some b' → b'.cap = some N ∧ b'.data.length ≤ N)) ∧
    (b.cap = none →
      (∀ x, ∃ b', b.push x = some b' ∧ b'.cap = none ∧ b'.data = b.data ++ [x]) ∧
      (∀ s, ∃ b', b.extend s = some b' ∧ b'.cap = none ∧ b'.data = b.data ++ s)) :=
  ⟨fun N hc hl =>
    ⟨fun x => buf_apply_data b N hc (.push x), fun s => buf_apply_data b N hc (.extend s),
      fun k => Option.some.inj (buf_apply_data b N hc (.truncate k)),
      Option.some.inj (buf_apply_data b N hc .clear),
      fun _ _ h => ⟨(buf_apply_cap h).trans hc, buf_apply_bound hc hl h⟩⟩,
   fun hc =>
    ⟨fun x => ⟨{ b with rdata := x :: b.rdata }, by simp [Buf.push, Buf.isFull, hc], hc,
        by simp [Buf.data]⟩,
      fun s => ⟨{ b with rdata := s.reverse ++ b.rdata }, by simp [Buf.extend, Buf.fits, hc], hc,
        by simp [Buf.data]⟩⟩⟩

/-- Any operation sequence on a bounded `Buf` produces the same tags and the same
    contents after every operation as the ideal vector. -/
theorem buf_run_refines (b : Buf) (N : Nat) (hc : b.cap = some N) (hl : b.data.length ≤ N)
    (ops : List BOp) :
    (Buf.run b ops).map (fun p => (p.1, p.2.data)) =
      (IdealVec.run ⟨N, b.data⟩ ops).map (fun p => (p.1, p.2.data)) := by
  clear hl
  induction ops generalizing b with
  | nil => rfl
  | cons op ops ih =>
    have h := buf_apply_abs b N hc op
    unfold Buf.run IdealVec.run
    cases hb : Buf.apply b op <;> rw [hb] at h <;>
      rw [← show _ = IdealVec.apply ⟨N, b.data⟩ op from h]
    · simp only [Option.map_none, List.map_cons, ih b hc]
    · simp only [Option.map_some, absV, List.map_cons, ih _ ((buf_apply_cap hb).trans hc)]

/-- N = 3: push 1, extend [2,3], push 4 (oom), truncate 1, extend [10,11], extend [0] (oom), clear,
    push 7. -/
def demoOps : List BOp :=
  [.push 1, .extend [2, 3], .push 4, .truncate 1, .extend [10, 11], .extend [0], .clear, .push 7]

example : (ArrayBuf.run (ArrayBuf.new 3) demoOps).map (·.1)
    = [.ok, .ok, .oom, .ok, .ok, .oom, .ok, .ok] := by decide

example : (ArrayBuf.run (ArrayBuf.new 3) demoOps).map (fun p => abs p.2)
    = [[1], [1, 2, 3], [1, 2, 3], [1], [1, 10, 11], [1, 10, 11], [], [7]] := by decide

example : (IdealVec.run (IdealVec.new 3) demoOps).map (fun p => (p.1, p.2.data))
    = [(.ok, [1]), (.ok, [1, 2, 3]), (.oom, [1, 2, 3]), (.ok, [1]), (.ok, [1, 10, 11]),
       (.oom, [1, 10, 11]), (.ok, []), (.ok, [7])] := by decide

-- stale bytes really are there: after `truncate 1` the backing array is still [1,2,3],
-- and at the end it is [7,10,11] with one visible element
example : (ArrayBuf.final (ArrayBuf.new 3) (demoOps.take 4)) = ⟨[1, 2, 3], 1⟩ := by decide
example : (ArrayBuf.final (ArrayBuf.new 3) demoOps) = ⟨[7, 10, 11], 1⟩ := by decide

-- hypotheses of `step_refines` / `eq_debug_visible_only` are satisfiable with differing stale bytes
-- and even differing `N`
example : WF ⟨[1, 2, 3], 1⟩ ∧ WF ⟨[1, 9, 9, 9], 1⟩ ∧
    abs ⟨[1, 2, 3], 1⟩ = abs ⟨[1, 9, 9, 9], 1⟩ ∧
    (⟨[1, 2, 3], 1⟩ : ArrayBuf) ≠ ⟨[1, 9, 9, 9], 1⟩ ∧
    ArrayBuf.eqv ⟨[1, 2, 3], 1⟩ ⟨[1, 9, 9, 9], 1⟩ = .ok true ∧
    ArrayBuf.eqv ⟨[1, 2, 3], 2⟩ ⟨[1, 9, 9, 9], 2⟩ = .ok false := by decide

-- the WF hypothesis is necessary: an ill-formed value panics on deref / push (unreachable states)
example : ¬ WF ⟨[1, 2], 3⟩ ∧ (⟨[1, 2], 3⟩ : ArrayBuf).deref = .panic "util.rs:109 slice end out of range" ∧
    (⟨[1, 2], 3⟩ : ArrayBuf).push 0 = .panic "util.rs:128 index out of bounds" :=
  ⟨by decide, rfl, rfl⟩

-- fromIter: exactly N bytes fit, N+1 bytes panic
example : ArrayBuf.fromIter 3 [5, 6, 7] = .ok ⟨[5, 6, 7], 3⟩ := by decide
example : ArrayBuf.fromIter 3 [5, 6] = .ok ⟨[5, 6, 0], 2⟩ := by decide
example : ArrayBuf.fromIter 3 [5, 6, 7, 8] = .panic "util.rs:117 unwrap on OutOfMemory" := rfl

-- abstract Buf: same demo run, bounded and unbounded
example : (Buf.run (Buf.new (some 3)) demoOps).map (fun p => (p.1, p.2.data))
    = [(.ok, [1]), (.ok, [1, 2, 3]), (.oom, [1, 2, 3]), (.ok, [1]), (.ok, [1, 10, 11]),
       (.oom, [1, 10, 11]), (.ok, []), (.ok, [7])] := by decide
example : (Buf.run (Buf.new none) demoOps).map (fun p => (p.1, p.2.data))
    = [(.ok, [1]), (.ok, [1, 2, 3]), (.ok, [1, 2, 3, 4]), (.ok, [1]), (.ok, [1, 10, 11]),
       (.ok, [1, 10, 11, 0]), (.ok, []), (.ok, [7])] := by decide

end Sml.C18
