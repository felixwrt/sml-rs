/-
  Property C18, composed with the decoder (src/util.rs:79-150 + src/transport/decode.rs).

  C18 (`Sml/Props/C18.lean`) shows that the real `ArrayBuf<N>` representation (backing array that
  keeps stale bytes + `num_elements`, explicit panic sites) refines the ideal bounded vector, and so
  does the abstract `Buf` the decoder model `Dec` works on.  Here the refinement is composed with
  the decoder:  `DecA` (`Sml/Model/DecodeArr.lean`) is the push decoder transcribed for
  `B = ArrayBuf<N>`, every buffer access going through `ArrayBuf.push` / `clear` / `deref`.

  "For every N and every history of push_byte / finalize / reset / Decoder::new() /
   Decoder::from_buf(buf) operations, the decoder running on the real ArrayBuf<N> representation —
   with whatever stale bytes earlier frames or the caller's used buffer left in the backing array —
   reports exactly what the decoder model on the abstract buffer reports: the same payloads, errors
   and counts, and no panic.  A decoder built by from_buf from ANY used buffer behaves exactly like
   a new one."

  The simulation itself (abstraction `absD`, invariant `WF`) is in `Sml/Lemmas/DecArrRefine.lean`.
-/
import Sml.Lemmas.DecArrRefine
import Sml.Props.C01
import Sml.Props.C02
import Sml.Props.C05

namespace Sml.C18
open Spec (frame)

/-- the buffer contents handed to `Decoder::from_buf` in a history -/
def stalesOf (ops : List Op) : List (List UInt8) :=
  ops.filterMap fun op => match op with
    | .fromBuf st => some st
    | _ => none

/-- `_push_byte` on a well-formed concrete state: same `Res` as the model on the abstracted state,
    the abstraction of the new state is the model's new state, `num_elements ≤ N` and `N` are
    preserved.  (Equal `Res` also means: an `ArrayBuf` panic outcome could only occur where the model
    reports the very same panic site, and the model has no `util.rs` sites.) -/
theorem pushByte_refines (d : DecA) (b : UInt8) (h : WF d.buf) :
    (d.pushByte b).2 = ((absD d).pushByte b).2 ∧
    absD (d.pushByte b).1 = ((absD d).pushByte b).1 ∧
    WF (d.pushByte b).1.buf ∧ (d.pushByte b).1.buf.N = d.buf.N :=
  pushByte_sim d b h

/-- `Decoder::push_byte`: in addition the delivered payload (`deref` of the real buffer) is the
    payload the model delivers. -/
theorem push_refines (d : DecA) (b : UInt8) (h : WF d.buf) :
    (d.push b).2 = ((absD d).push b).2 ∧
    absD (d.push b).1 = ((absD d).push b).1 ∧
    WF (d.push b).1.buf ∧ (d.push b).1.buf.N = d.buf.N :=
  push_sim d b h

theorem reset_finalize_refine (d : DecA) :
    d.reset.2 = (absD d).reset.2 ∧ absD d.reset.1 = (absD d).reset.1 ∧
    d.finalize.2 = (absD d).finalize.2 ∧ absD d.finalize.1 = (absD d).finalize.1 ∧
    WF d.reset.1.buf ∧ WF d.finalize.1.buf ∧
    d.reset.1.buf.N = d.buf.N ∧ d.finalize.1.buf.N = d.buf.N :=
  ⟨rfl, absD_reset d, rfl, absD_reset d, WF_reset d, WF_reset d, rfl, rfl⟩

/-- one operation of a history (incl. `new` and `from_buf` of a buffer holding `stale`, which must
    fit an `ArrayBuf<N>`) -/
theorem step_refines_dec (d : DecA) (op : Op) (h : WF d.buf)
    (hop : ∀ st, op = .fromBuf st → st.length ≤ d.buf.N) :
    (d.step op).2 = ((absD d).step op).2 ∧
    absD (d.step op).1 = ((absD d).step op).1 ∧
    WF (d.step op).1.buf ∧ (d.step op).1.buf.N = d.buf.N :=
  step_sim d op h hop

/-- no panic site at all — in particular none of the `ArrayBuf` ones — is reached from a
    well-formed state whose abstraction satisfies the decoder invariant of C05 -/
theorem push_never_panics (d : DecA) (b : UInt8) (h : WF d.buf) (hi : Dec.Inv (absD d)) :
    (∀ s, (d.pushByte b).2 ≠ .panic s) ∧ (∀ s, (d.push b).2 ≠ .panic s) :=
  ⟨fun s => (pushByte_sim d b h).1 ▸ Dec.pushByte_no_panic hi b s,
    fun s => (push_sim d b h).1 ▸ Dec.push_no_panic hi b s⟩

theorem run_refines_dec (d : DecA) (h : WF d.buf) (ops : List Op)
    (hstale : ∀ st ∈ stalesOf ops, st.length ≤ d.buf.N) :
    (d.run ops).2 = ((absD d).run ops).2 ∧
    absD (d.run ops).1 = ((absD d).run ops).1 ∧
    WF (d.run ops).1.buf ∧ (d.run ops).1.buf.N = d.buf.N :=
  run_sim ops d h fun st hm => hstale st (List.mem_filterMap.2 ⟨.fromBuf st, hm, rfl⟩)

/-- **The decoder on the real `ArrayBuf<N>` representation reports exactly what the decoder model
    reports**, for all histories of `push_byte` / `finalize` / `reset` / `new` / `from_buf`. -/
theorem decoder_on_arraybuf (N : Nat) (ops : List Op)
    (hstale : ∀ st ∈ stalesOf ops, st.length ≤ N) :
    (DecA.run (DecA.fresh N) ops).2 = (Dec.run (Dec.fresh (some N)) ops).2 := by
  have h := (run_refines_dec (DecA.fresh N) (WF_clear _) ops
    (by rw [show (DecA.fresh N).buf.N = N from N_new N]; exact hstale)).1
  rw [absD_fresh] at h
  exact h

theorem stale_bytes_never_leak' (a : ArrayBuf) (s : List UInt8) :
    (DecA.pushAll (DecA.fromBuf a) s).2 = (Dec.pushAll (Dec.fresh (some a.N)) s).2 ∧
    absD (DecA.pushAll (DecA.fromBuf a) s).1 = (Dec.pushAll (Dec.fresh (some a.N)) s).1 := by
  obtain ⟨h4, h3, _⟩ := pushAll_sim s (DecA.fromBuf a) (WF_clear a)
  rw [absD_fromBuf] at h3 h4
  exact ⟨h4, h3⟩

/-- **Stale bytes never leak**: a decoder built by `from_buf` from ANY used buffer (arbitrary
    backing bytes, arbitrary `num_elements ≤ N`) behaves on every stream exactly like the model of
    a new decoder.  (`ha` is not even needed — `clear` repairs `num_elements` —, see
    `stale_bytes_never_leak'`; it is kept because only well-formed values exist in Rust.) -/
theorem stale_bytes_never_leak (a : ArrayBuf) (_ha : WF a) (s : List UInt8) :
    (DecA.pushAll (DecA.fromBuf a) s).2 = (Dec.pushAll (Dec.fresh (some a.N)) s).2 :=
  (stale_bytes_never_leak' a s).1

/-- the same for whole histories after `from_buf` of any buffer -/
theorem fromBuf_any_buffer (a : ArrayBuf) (ops : List Op)
    (hstale : ∀ st ∈ stalesOf ops, st.length ≤ a.N) :
    (DecA.run (DecA.fromBuf a) ops).2 = (Dec.run (Dec.fresh (some a.N)) ops).2 := by
  have h := (run_refines_dec (DecA.fromBuf a) (WF_clear a) ops hstale).1
  rw [absD_fromBuf] at h
  exact h

/-- hence two decoders built from buffers of the same size are indistinguishable, whatever the
    buffers held -/
theorem fromBuf_contents_irrelevant (a a' : ArrayBuf) (hN : a.N = a'.N) (s : List UInt8) :
    (DecA.pushAll (DecA.fromBuf a) s).2 = (DecA.pushAll (DecA.fromBuf a') s).2 := by
  rw [(stale_bytes_never_leak' a s).1, (stale_bytes_never_leak' a' s).1, hN]

/-- C05.no_panic on the real representation: no operation of any history panics, in particular
    never at an `ArrayBuf` index / slice site. -/
theorem no_panic_arraybuf (N : Nat) (ops : List Op) (hstale : ∀ st ∈ stalesOf ops, st.length ≤ N) :
    ∀ o ∈ (DecA.run (DecA.fresh N) ops).2, ∀ s, o ≠ OpOut.out (Out.panic s) := by
  rw [decoder_on_arraybuf N ops hstale]
  exact C05.no_panic (some N) ops

/-- C02.sound on the real representation: a delivered payload is framed by the bytes pushed since
    the latest `finalize` / `reset` / `new` / `from_buf`; stale bytes contribute nothing. -/
theorem sound_arraybuf (N : Nat) (ops : List Op) (hstale : ∀ st ∈ stalesOf ops, st.length ≤ N)
    (i : Nat) (m : List UInt8)
    (h : (DecA.run (DecA.fresh N) ops).2[i]? = some (OpOut.out (Out.msg m))) :
    ∃ pre, C02.consumed (ops.take (i + 1)) = pre ++ frame m := by
  rw [decoder_on_arraybuf N ops hstale] at h
  exact C02.sound (some N) ops i m h

/-- C02.sound_stream for a decoder built from any used buffer -/
theorem sound_stream_fromBuf (a : ArrayBuf) (ha : WF a) (s : List UInt8) (i : Nat) (m : List UInt8)
    (h : (DecA.pushAll (DecA.fromBuf a) s).2[i]? = some (Out.msg m)) :
    ∃ pre, s.take (i + 1) = pre ++ frame m := by
  rw [stale_bytes_never_leak a ha s] at h
  exact C02.sound_stream (some a.N) s i m h

/-- C01.roundtrip_push for a decoder built from any used buffer that is large enough: exactly the
    payload comes out, whatever the buffer held. -/
theorem roundtrip_push_fromBuf (a : ArrayBuf) (ha : WF a) (p : List UInt8) (hp : p.length ≤ a.N) :
    (DecA.pushAll (DecA.fromBuf a) (frame p)).2 =
      List.replicate ((frame p).length - 1) Out.none ++ [Out.msg p] := by
  rw [stale_bytes_never_leak a ha (frame p)]
  exact C01.roundtrip_push p (some a.N) hp

/-- C01.roundtrip_push for `Decoder::<ArrayBuf<N>>::new()` -/
theorem roundtrip_push_arraybuf (N : Nat) (p : List UInt8) (hp : p.length ≤ N) :
    (DecA.pushAll (DecA.fresh N) (frame p)).2 =
      List.replicate ((frame p).length - 1) Out.none ++ [Out.msg p] := by
  have := roundtrip_push_fromBuf (ArrayBuf.new N) (WF_new N) p (by rw [N_new]; exact hp)
  exact this

def p1 : List UInt8 := [1, 2, 3, 4, 5, 6, 7, 8]
def p2 : List UInt8 := [9, 10, 11, 12]

/-- the payloads delivered in a history -/
def msgsOf (os : List OpOut) : List (List UInt8) :=
  os.filterMap fun o => match o with
    | .out (.msg m) => some m
    | _ => none

/-- N = 8.  A first frame fills the buffer; then a shorter frame into the same decoder. -/
def demoSame : List Op := (frame p1).map .push ++ (frame p2).map .push

/-- N = 8.  A first frame, then `from_buf` with a buffer full of 0xdd, then a shorter frame. -/
def demoFromBuf : List Op :=
  (frame p1).map .push ++ [.fromBuf (List.replicate 8 0xdd)] ++ (frame p2).map .push

-- the hypothesis of `decoder_on_arraybuf` holds for both
example : ∀ st ∈ stalesOf demoSame, st.length ≤ 8 := by decide +kernel
example : ∀ st ∈ stalesOf demoFromBuf, st.length ≤ 8 := by decide +kernel
example : stalesOf demoFromBuf = [List.replicate 8 0xdd] := by decide +kernel

-- same decoder: while the second frame is decoded the backing array still holds 5,6,7,8 of the
-- first one (final state: `[9,10,11,12,5,6,7,8]`, 4 visible); the delivered payload is `p2` only
example : msgsOf (DecA.run (DecA.fresh 8) demoSame).2 = [p1, p2] := by decide +kernel
example : (DecA.run (DecA.fresh 8) demoSame).1.buf = ⟨[9, 10, 11, 12, 5, 6, 7, 8], 4⟩ := by
  decide +kernel

-- `from_buf` with a buffer full of 0xdd: the dd bytes really are in the backing array of the new
-- decoder (final state `[9,10,11,12,dd,dd,dd,dd]`, 4 visible), no delivered payload contains one
example : msgsOf (DecA.run (DecA.fresh 8) demoFromBuf).2 = [p1, p2] := by decide +kernel
example : (DecA.run (DecA.fresh 8) demoFromBuf).1.buf
    = ⟨[9, 10, 11, 12, 0xdd, 0xdd, 0xdd, 0xdd], 4⟩ := by decide +kernel
example : ∀ m ∈ msgsOf (DecA.run (DecA.fresh 8) demoFromBuf).2, (0xdd : UInt8) ∉ m := by
  decide +kernel

-- both sides of `decoder_on_arraybuf` on this history, computed independently
example : (DecA.run (DecA.fresh 8) demoFromBuf).2 = (Dec.run (Dec.fresh (some 8)) demoFromBuf).2 := by
  decide +kernel

-- `stale_bytes_never_leak` with a used buffer that still claims 5 visible elements
example : WF ⟨List.replicate 8 0xdd, 5⟩ ∧
    (DecA.pushAll (DecA.fromBuf ⟨List.replicate 8 0xdd, 5⟩) (frame p2)).2
      = List.replicate 19 Out.none ++ [Out.msg p2] := by decide +kernel

-- out of memory on the real representation: a 9-byte payload does not fit N = 8, the decoder
-- reports `OutOfMemory` exactly like the model
example : (DecA.pushAll (DecA.fresh 8) (frame (p1 ++ [9]))).2
    = (Dec.pushAll (Dec.fresh (some 8)) (frame (p1 ++ [9]))).2 ∧
    Out.err .oom ∈ (DecA.pushAll (DecA.fresh 8) (frame (p1 ++ [9]))).2 := by decide +kernel

-- the invariant is necessary: with `num_elements > N` (unreachable) the ArrayBuf panic sites fire
example : ¬ WF ⟨[0, 0], 3⟩ ∧
    (DecA.pushByte ⟨8, startCrc, .normal, 0, ⟨[0, 0], 3⟩⟩ 7).2
      = .panic "util.rs:128 index out of bounds" ∧
    DecA.borrowBuf ⟨24, crcInit, .done, 0, ⟨[0, 0], 3⟩⟩
      = .panic "util.rs:109 slice end out of range" := by decide +kernel

-- the `hstale` hypothesis is necessary: collecting 9 bytes into an `ArrayBuf<8>` panics in the
-- caller (util.rs:117) before `from_buf` is reached
example : (DecA.run (DecA.fresh 8) [.fromBuf (List.replicate 9 0xdd)]).2
    = [.out (.panic "util.rs:117 unwrap on OutOfMemory")] := by decide +kernel

end Sml.C18
