import Sml.Lemmas.DecEquiv
/-
  Property C14.

  "Whenever a decoder has just delivered a transmission, reported an invalid-message,
  invalid-escape or out-of-memory error, or been reset or finalized, its behaviour on all
  following bytes is identical to that of a newly constructed decoder.  Consequently decoding a
  concatenation equals concatenating the decodings whenever the split falls on such a boundary."

  * model : `Dec`, `Dec.step` / `Dec.run` (histories of `push_byte` / `finalize` / `reset`, and of
    replacements of the decoder by `Decoder::new()` / `Decoder::from_buf(buf)` with a buffer that
    still holds stale bytes: `Op.new`, `Op.fromBuf stale`),
    `Dec.pushAll` (Sml/Model/Decode.lean, Sml/Model/Frontends.lean).
  * method (Sml/Lemmas/DecEquiv.lean): `Dec.norm` forgets the dead fields — the digest in
    state `look` (overwritten when a start sequence completes) and, in state `done`, `raw`, `zc`,
    the digest and the buffer contents (the next operation begins with `reset`; the capacity is
    kept).  `Dec.Equiv d d' := d.norm = d'.norm` is a bisimulation for all five operations
    (`Dec.step_equiv`), and after each of the listed events the state is `Equiv` to
    `Dec.fresh cap` (`Dec.step_fresh_or`; the capacity is preserved by `Dec.run_cap`).
  * "behaviour on all following bytes" is stated for arbitrary continuations `c : List Op`
    (bytes, and also further `finalize` / `reset` / `new` / `from_buf` calls).

  The theorems hold for every history, every continuation and every buffer capacity.
-/
namespace Sml.C14

/-- The answers after which the decoder is as good as new: a transmission, an `InvalidMessage`,
`InvalidEsc` or `OutOfMemory` error, the answer of `finalize`, the answer of `reset`, and the
construction of a decoder in mid-history by `Decoder::new()` or `Decoder::from_buf(buf)` (whatever
stale bytes `buf` holds).
(Not `Ok(None)`, and not a `DiscardedBytes` error: that one is reported when a start sequence
has just been recognised, i.e. in the middle of a transmission.) -/
def Boundary : OpOut → Prop
  | .out (.msg _) => True
  | .out (.err (.invalidMsg _ _ _ _ _)) => True
  | .out (.err (.invalidEsc _ _ _ _)) => True
  | .out (.err .oom) => True
  | .fin _ => True
  | .reset _ => True
  | .new => True
  | .fromBuf => True
  | _ => False

theorem boundary_cases {o : OpOut} (h : Boundary o) :
    o ≠ .out .none ∧ (∀ n, o ≠ .out (.err (.discarded n))) ∧ ∀ s, o ≠ .out (.panic s) := by
  refine ⟨?_, ?_, ?_⟩
  · rintro rfl; exact h
  · rintro n rfl; exact h
  · rintro s rfl; exact h

/-- equal up to fields that no later operation can observe -/
abbrev Equiv : Dec → Dec → Prop := Dec.Equiv

theorem equiv_bisim {d d' : Dec} (h : Equiv d d') (op : Op) :
    (d.step op).2 = (d'.step op).2 ∧ Equiv (d.step op).1 (d'.step op).1 :=
  Dec.step_equiv h op

theorem equiv_run {d d' : Dec} (h : Equiv d d') (c : List Op) : (d.run c).2 = (d'.run c).2 :=
  (Dec.run_equiv c h).1

/-- after a boundary answer the decoder is equivalent to a newly constructed one -/
theorem boundary_equiv_fresh (cap : Option Nat) (ops : List Op) (op : Op)
    (h : Boundary ((Dec.run (Dec.fresh cap) ops).1.step op).2) :
    Equiv (Dec.run (Dec.fresh cap) (ops ++ [op])).1 (Dec.fresh cap) := by
  obtain ⟨h1, h2, h3⟩ := boundary_cases h
  rw [Dec.run_snoc]
  exact (Dec.step_boundary_norm (Dec.run_inv ops (Dec.inv_fresh cap)) op h1 h2 h3).trans
    (by rw [Dec.run_cap ops (Dec.inv_fresh cap)]; rfl)

/-- Main statement: if the last answer of a history is a boundary, every continuation is
answered exactly as by a new decoder. -/
theorem boundary_fresh (cap : Option Nat) (ops : List Op)
    (h : ∃ o, (Dec.run (Dec.fresh cap) ops).2.getLast? = some o ∧ Boundary o) (c : List Op) :
    (Dec.run (Dec.run (Dec.fresh cap) ops).1 c).2 = (Dec.run (Dec.fresh cap) c).2 := by
  obtain ⟨o, hl, hb⟩ := h
  rcases List.eq_nil_or_concat ops with rfl | ⟨ops', op, rfl⟩
  · simp [Dec.run_nil] at hl
  · rw [List.concat_eq_append] at hl ⊢
    rw [Dec.run_snoc] at hl
    simp only [List.getLast?_append, List.getLast?_singleton, Option.some_or] at hl
    cases Option.some.inj hl
    exact equiv_run (boundary_equiv_fresh cap ops' op hb) c

/-- feeding a concatenation: the second part starts in the state the first part left -/
theorem pushAll_append (d : Dec) (s1 s2 : List UInt8) :
    Dec.pushAll d (s1 ++ s2) =
      ((Dec.pushAll (Dec.pushAll d s1).1 s2).1,
        (Dec.pushAll d s1).2 ++ (Dec.pushAll (Dec.pushAll d s1).1 s2).2) :=
  Dec.pushAll_append s1 d s2

/-- After a history that is empty or ends at a boundary every byte string is answered as by a new
decoder. -/
theorem _root_.Sml.Resync.pushAll_after_idle (cap : Option Nat) (ops : List Op)
    (h : ops = [] ∨ ∃ o, (Dec.run (Dec.fresh cap) ops).2.getLast? = some o ∧ Boundary o)
    (s : List UInt8) :
    (Dec.pushAll (Dec.run (Dec.fresh cap) ops).1 s).2 = (Dec.pushAll (Dec.fresh cap) s).2 := by
  rcases h with rfl | h
  · rfl
  · exact Dec.pushAll_snd_eq_of_run (boundary_fresh cap ops h _)

/-- Decoding a concatenation is concatenating the decodings when the split falls on a boundary. -/
theorem concat (cap : Option Nat) (s1 s2 : List UInt8)
    (h : ∃ o, (Dec.pushAll (Dec.fresh cap) s1).2.getLast? = some o ∧ Boundary (.out o)) :
    (Dec.pushAll (Dec.fresh cap) (s1 ++ s2)).2 =
      (Dec.pushAll (Dec.fresh cap) s1).2 ++ (Dec.pushAll (Dec.fresh cap) s2).2 := by
  obtain ⟨o, hl, hb⟩ := h
  rw [pushAll_append, (Dec.pushAll_eq_run s1 _).1]
  simp only
  rw [Resync.pushAll_after_idle cap _ (Or.inr ⟨.out o, by
    rw [← (Dec.pushAll_eq_run s1 _).2, List.getLast?_map, hl]; rfl, hb⟩)]

/-- a complete transmission (the frame of `12 34 56 78`) ends on a boundary ... -/
example : ∃ o, (Dec.pushAll (Dec.fresh none)
      [0x1b, 0x1b, 0x1b, 0x1b, 0x01, 0x01, 0x01, 0x01, 0x12, 0x34, 0x56, 0x78,
       0x1b, 0x1b, 0x1b, 0x1b, 0x1a, 0x00, 0xb8, 0x7b]).2.getLast? = some o ∧
    Boundary (.out o) :=
  ⟨.msg [0x12, 0x34, 0x56, 0x78], by decide +kernel, trivial⟩

/-- ... so does a corrupted one (`InvalidMessage`) ... -/
example : ∃ o, (Dec.pushAll (Dec.fresh none)
      [0x1b, 0x1b, 0x1b, 0x1b, 0x01, 0x01, 0x01, 0x01, 0x12, 0x34, 0x56, 0x79,
       0x1b, 0x1b, 0x1b, 0x1b, 0x1a, 0x00, 0xb8, 0x7b]).2.getLast? = some o ∧
    Boundary (.out o) :=
  ⟨.err (.invalidMsg 31672 58477 false 0 false), by decide +kernel, trivial⟩

/-- ... an invalid escape sequence ... -/
example : ∃ o, (Dec.pushAll (Dec.fresh none)
      [0x1b, 0x1b, 0x1b, 0x1b, 0x01, 0x01, 0x01, 0x01,
       0x1b, 0x1b, 0x1b, 0x1b, 0x02, 0x00, 0x00, 0x00]).2.getLast? = some o ∧
    Boundary (.out o) :=
  ⟨.err (.invalidEsc 0x02 0x00 0x00 0x00), by decide +kernel, trivial⟩

/-- ... and running out of memory in an `ArrayBuf<1>` -/
example : ∃ o, (Dec.pushAll (Dec.fresh (some 1))
      [0x1b, 0x1b, 0x1b, 0x1b, 0x01, 0x01, 0x01, 0x01, 0x05, 0x06]).2.getLast? = some o ∧
    Boundary (.out o) :=
  ⟨.err .oom, by decide +kernel, trivial⟩

/-- `finalize` / `reset` in the middle of a transmission -/
example : ∃ o, (Dec.run (Dec.fresh none)
      ([0x1b, 0x1b, 0x1b, 0x1b, 0x01, 0x01, 0x01, 0x01, 0x05].map Op.push ++ [.fin])).2.getLast?
        = some o ∧ Boundary o :=
  ⟨.fin (some (.discarded 9)), by decide +kernel, trivial⟩

/-- `Decoder::new()` / `Decoder::from_buf` (with stale bytes in the buffer) in the middle of a
transmission -/
example : ∃ o, (Dec.run (Dec.fresh (some 4))
      ([0x1b, 0x1b, 0x1b, 0x1b, 0x01, 0x01, 0x01, 0x01, 0x05].map Op.push ++ [.new])).2.getLast?
        = some o ∧ Boundary o :=
  ⟨.new, by decide +kernel, trivial⟩

example : ∃ o, (Dec.run (Dec.fresh (some 4))
      ([0x1b, 0x1b, 0x1b, 0x1b, 0x01, 0x01, 0x01, 0x01, 0x05].map Op.push ++
        [.fromBuf [0xde, 0xad, 0xbe, 0xef]])).2.getLast? = some o ∧ Boundary o :=
  ⟨.fromBuf, by decide +kernel, trivial⟩

/-- ... after which a frame is decoded as by a new decoder: the stale bytes `de ad be ef` that
fill the whole `ArrayBuf<4>` neither reach the payload nor cause an out-of-memory error -/
example : (Dec.run (Dec.fresh (some 4))
      ([0x1b, 0x1b, 0x1b, 0x1b, 0x01, 0x01, 0x01, 0x01, 0x05].map Op.push ++
        [.fromBuf [0xde, 0xad, 0xbe, 0xef]] ++
        [0x1b, 0x1b, 0x1b, 0x1b, 0x01, 0x01, 0x01, 0x01, 0x12, 0x34, 0x56, 0x78,
         0x1b, 0x1b, 0x1b, 0x1b, 0x1a, 0x00, 0xb8, 0x7b].map Op.push)).2.getLast? =
    some (.out (.msg [0x12, 0x34, 0x56, 0x78])) := by
  decide +kernel

/-- the conclusion on a concrete instance: two frames back to back -/
example : (Dec.pushAll (Dec.fresh none)
      ([0x1b, 0x1b, 0x1b, 0x1b, 0x01, 0x01, 0x01, 0x01, 0x12, 0x34, 0x56, 0x78,
        0x1b, 0x1b, 0x1b, 0x1b, 0x1a, 0x00, 0xb8, 0x7b] ++
       [0x1b, 0x1b, 0x1b, 0x1b, 0x01, 0x01, 0x01, 0x01, 0x12, 0x34, 0x56, 0x78,
        0x1b, 0x1b, 0x1b, 0x1b, 0x1a, 0x00, 0xb8, 0x7b])).2.filterMap Out.toItem? =
    [.ok [0x12, 0x34, 0x56, 0x78], .ok [0x12, 0x34, 0x56, 0x78]] := by
  decide +kernel

/-- the boundary hypothesis is needed: in the middle of a transmission (`Ok(None)`) the decoder
does not behave like a new one (the same four bytes are an `InvalidEsc` here, noise there) -/
example :
    (Dec.pushAll (Dec.pushAll (Dec.fresh none)
      [0x1b, 0x1b, 0x1b, 0x1b, 0x01, 0x01, 0x01, 0x01, 0x1b, 0x1b, 0x1b, 0x1b]).1
        [0x02, 0x00, 0x00, 0x00]).2 ≠
    (Dec.pushAll (Dec.fresh none) [0x02, 0x00, 0x00, 0x00]).2 := by
  decide +kernel

/-- `Decoder::from_buf` with any (possibly non-empty) buffer is a newly constructed decoder: the
    caller's stale bytes never reach a payload. -/
theorem fromBuf_eq_fresh (b : Buf) : Dec.fromBuf b = Dec.fresh b.cap := rfl

/-- the two constructor operations of a history: whatever the decoder was doing, and whatever
stale bytes the buffer handed to `from_buf` holds, the result *is* (not only: is equivalent to)
a newly constructed decoder of the same capacity -/
theorem step_new (d : Dec) : d.step .new = (Dec.fresh d.buf.cap, .new) := rfl

theorem step_fromBuf (d : Dec) (stale : List UInt8) :
    d.step (.fromBuf stale) = (Dec.fresh d.buf.cap, .fromBuf) := rfl

/-- in a history that started with `Dec.fresh cap` the capacity is `cap` throughout, so a
`new` / `from_buf` anywhere in a history restarts it: the answers to the rest are those of a new
decoder (special case of `boundary_fresh`, stated without the `Boundary` detour) -/
theorem new_restarts (cap : Option Nat) (ops c : List Op) :
    (Dec.run (Dec.fresh cap) (ops ++ .new :: c)).2 =
      (Dec.run (Dec.fresh cap) ops).2 ++ .new :: (Dec.run (Dec.fresh cap) c).2 := by
  rw [Dec.run_append, Dec.run_cons, step_new, Dec.run_cap ops (Dec.inv_fresh cap)]
  rfl

theorem fromBuf_restarts (cap : Option Nat) (ops c : List Op) (stale : List UInt8) :
    (Dec.run (Dec.fresh cap) (ops ++ .fromBuf stale :: c)).2 =
      (Dec.run (Dec.fresh cap) ops).2 ++ .fromBuf :: (Dec.run (Dec.fresh cap) c).2 := by
  rw [Dec.run_append, Dec.run_cons, step_fromBuf, Dec.run_cap ops (Dec.inv_fresh cap)]
  rfl

end Sml.C14
