import Sml.Lemmas.StreamingParser
/-
  Property C13.

  "For every input, iterating the streaming parser yields finitely many items - at most one more
   than the number of input bytes - and once it has yielded an error or None, every further call
   yields None.  In particular an error in the middle of a message (bad checksum, truncated or
   corrupt list) ends the iteration instead of repeating."

  `SParser.take p k` is the list of the results of the first `k` calls of `Iterator::next`
  (`some item` / `none`).  All statements hold for every input and every number of calls.
-/
namespace Sml.C13
open Sml SParser

/-- strongest form: there is ONE finite list `items` (the run of the iterator), of at most
    `|x| + 1` items of which at most `|x|` are events, such that for every `k` the first `k` calls
    return the first `k` items and then only `None`; only the last item can be an error -/
theorem fused_items (x : Bytes) : ∃ items : List SItem,
    items.length ≤ x.length + 1 ∧ (items.filter SItem.isEv).length ≤ x.length ∧
    (∀ j e, items[j]? = some (.err e) → j + 1 = items.length) ∧
    ∀ k, ((SParser.new x).take k).2 =
      (items.take k).map some ++ List.replicate (k - items.length) none :=
  ⟨run (new x), run_length_le _, run_events_le _, run_err_last _,
    take_eq_run (new x)⟩

/-- the first `n` calls return `some`, all later calls return `none`, and only the `n`-th item can
    be an error -/
theorem fused (x : Bytes) : ∃ n, n ≤ x.length + 1 ∧ ∀ k, ∃ items : List SParser.SItem,
    items.length = min k n ∧
    ((SParser.new x).take k).2 = items.map some ++ List.replicate (k - n) none ∧
    (∀ j e, j + 1 < n → items[j]? = some (.err e) → False) := by
  obtain ⟨items, h1, _, h3, h4⟩ := fused_items x
  refine ⟨items.length, h1, fun k => ⟨items.take k, by simp, h4 k, ?_⟩⟩
  intro j e hj he
  rw [List.getElem?_take] at he
  split at he
  · have := h3 j e he
    omega
  · cases he

theorem take_getElem? (x : Bytes) {k j : Nat} (hj : j < k) :
    ((SParser.new x).take k).2[j]? = some ((run (new x))[j]?) := by
  rw [take_eq_run (new x) k]
  by_cases h : j < (run (new x)).length
  · rw [List.getElem?_append_left (by simp; omega), List.getElem?_map, List.getElem?_take_of_lt hj,
      List.getElem?_eq_getElem h, Option.map_some]
  · rw [List.getElem?_append_right (by simp; omega), List.getElem?_replicate,
      List.getElem?_eq_none (by omega), if_pos (by simp; omega)]

/-- after an error every further call returns `None` -/
theorem after_error (x : Bytes) (k j : Nat) (e : PErr) :
    ((SParser.new x).take k).2[j]? = some (some (.err e)) →
    ∀ j', j < j' → j' < k → ((SParser.new x).take k).2[j']? = some none := by
  intro h j' hj hk
  rw [take_getElem? x (by omega)] at h
  rw [take_getElem? x hk, List.getElem?_eq_none]
  have := run_err_last _ j e (Option.some.inj h)
  omega

/-- after a `None` every further call returns `None` -/
theorem after_none (x : Bytes) (k j : Nat) :
    ((SParser.new x).take k).2[j]? = some none →
    ∀ j', j < j' → j' < k → ((SParser.new x).take k).2[j']? = some none := by
  intro h j' hj hk
  rw [take_getElem? x (by omega)] at h
  rw [take_getElem? x hk, List.getElem?_eq_none]
  have := List.getElem?_eq_none_iff.1 (Option.some.inj h)
  omega

/-- the iteration `for item in parser` (`collect`) terminates: any fuel above `|x|` gives the same
    finite list -/
theorem collect_fuel_irrelevant (x : Bytes) (fuel : Nat) (h : x.length + 1 ≤ fuel) :
    (SParser.new x).collect fuel = (SParser.new x).collect (x.length + 1) :=
  collect_eq_run (new x) fuel h

/-- a close-response message with a wrong checksum -/
def badCrc : Bytes :=
  [0x76, 0x05, 0x01, 0x02, 0x03, 0x04, 0x62, 0x00, 0x62, 0x00, 0x72, 0x63, 0x02, 0x01, 0x71, 0x01,
   0x63, 0x00, 0x00, 0x00]

/-- a list response announcing two values, cut in the second entry -/
def cutList : Bytes :=
  [0x76, 0x05, 0x01, 0x02, 0x03, 0x04, 0x62, 0x00, 0x62, 0x00, 0x72, 0x63, 0x07, 0x01,
   0x77, 0x01, 0x02, 0xaa, 0x01, 0x01, 0x72,
   0x77, 0x02, 0xbb, 0x01, 0x01, 0x01, 0x01, 0x62, 0x05, 0x01,
   0x77, 0x02, 0xbc, 0x01]

/-- a list response whose first entry has a corrupt type-length field -/
def corruptList : Bytes :=
  [0x76, 0x05, 0x01, 0x02, 0x03, 0x04, 0x62, 0x00, 0x62, 0x00, 0x72, 0x63, 0x07, 0x01,
   0x77, 0x01, 0x02, 0xaa, 0x01, 0x01, 0x72,
   0x77, 0x12, 0xbb, 0x01, 0x01, 0x01, 0x01, 0x62, 0x05, 0x01]

/-- results of the calls reduced to: event / error kind / none -/
def kinds (rs : List (Option SItem)) : List (Option (Option PErr)) :=
  rs.map fun o => o.map fun | .ev _ => Option.none | .err e => some e

example : kinds ((SParser.new badCrc).take 5).2 =
    [some none, some (some .crcMismatch), none, none, none] := by decide +kernel
example : kinds ((SParser.new cutList).take 6).2 =
    [some none, some none, some (some .unexpectedEOF), none, none, none] := by decide +kernel
example : kinds ((SParser.new corruptList).take 4).2 =
    [some none, some (some .tlfInvalidTy), none, none] := by decide +kernel
example : kinds ((SParser.new []).take 2).2 = [none, none] := by decide +kernel

end Sml.C13
