import Sml.Props.C05Vec
/-
  C05 / C17 over a fallible `Vec<u8>`, history level: the answers of the fallible decoder and of
  the never-failing model `Dec` can only part at an answer `Err(OutOfMemory)` that an actual
  allocation failure produced, so an allocation failure can never silently alter, drop or invent
  an answer before it is reported (`DecF.run_rel`, Lemmas/DecFallible.lean).
-/

namespace Sml.C05

open Sml

/-- history-level refinement: answers agree with `Dec` up to the first reported allocation
    failure -/
theorem run_agrees_until_oom (ops : List Op) : ∀ f : DecF,
    ((f.run ops).2 = (f.d.run ops).2 ∧ (f.run ops).1.d = (f.d.run ops).1) ∨
      ∃ k, k < ops.length ∧
        (f.run ops).2.take k = (f.d.run ops).2.take k ∧
        (f.run ops).2[k]? = some (.out (.err .oom)) ∧
        (∃ a ∈ f.alloc, a = false) :=
  fun f => (DecF.run_rel ops f).2

/-- a history without an `Err(OutOfMemory)` answer is exactly a history of the never-failing
    model: same answers, same final decoder -/
theorem run_eq_of_no_oom (f : DecF) (ops : List Op)
    (h : OpOut.out (.err .oom) ∉ (f.run ops).2) :
    (f.run ops).2 = (f.d.run ops).2 ∧ (f.run ops).1.d = (f.d.run ops).1 := by
  rcases run_agrees_until_oom ops f with e | ⟨k, _, _, g, _⟩
  · exact e
  · exact absurd (List.mem_of_getElem? g) h

/-- ... from a newly constructed `Decoder::<Vec<u8>>::new()` -/
theorem run_eq_of_no_oom_fresh (alloc : List Bool) (ops : List Op)
    (h : OpOut.out (.err .oom) ∉ (DecF.run (DecF.fresh alloc) ops).2) :
    (DecF.run (DecF.fresh alloc) ops).2 = (Dec.run (Dec.fresh none) ops).2 :=
  (run_eq_of_no_oom (DecF.fresh alloc) ops h).1

/-- ... for byte streams: a stream during which `push_byte` never answered `Err(OutOfMemory)` is
    decoded exactly as by the never-failing model — same answer per byte, same final decoder -/
theorem pushAll_eq_of_no_oom (f : DecF) (s : List UInt8)
    (h : Out.err .oom ∉ (f.pushAll s).2) :
    (f.pushAll s).2 = (f.d.pushAll s).2 ∧ (f.pushAll s).1.d = (f.d.pushAll s).1 := by
  have hm : OpOut.out (.err .oom) ∉ (f.run (s.map Op.push)).2 := by
    rw [← (DecF.pushAll_eq_run s f).2]
    intro hc
    obtain ⟨o, ho, e⟩ := List.mem_map.1 hc
    exact h (OpOut.out.inj e ▸ ho)
  obtain ⟨e2, e1⟩ := run_eq_of_no_oom f (s.map Op.push) hm
  exact DecF.pushAll_eq_of_run_eq e2 e1

/-- the history of the non-vacuity check: start sequence, then the first payload byte (the first
    byte that is pushed into the buffer, i.e. the first allocation) -/
def firstAllocHistory : List Op :=
  ([0x1b, 0x1b, 0x1b, 0x1b, 1, 1, 1, 1, 0x76] : List UInt8).map Op.push

/-- non-vacuity: an oracle that fails the first allocation yields the `k = 8` branch (eight
    agreeing answers, then `Err(OutOfMemory)`), while the never-failing model answers `none`
    there — both branches of `run_agrees_until_oom` are inhabited -/
example :
    (DecF.run (DecF.fresh [false]) firstAllocHistory).2[8]? = some (.out (.err .oom)) ∧
    (Dec.run (Dec.fresh none) firstAllocHistory).2[8]? = some (.out .none) ∧
    (DecF.run (DecF.fresh [false]) firstAllocHistory).2.take 8 =
      (Dec.run (Dec.fresh none) firstAllocHistory).2.take 8 := by decide

end Sml.C05
