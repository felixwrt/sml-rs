import Sml.Lemmas.SpecEncSound
import Sml.Lemmas.SpecEncWf
import Sml.Props.C04
/-
  Property C03, non-vacuity at full strength ("the grammar is not too narrow").

  `C03.complete : EncFile F x → parseFile x = .ok F` and `C04.iff` make the declarative grammar
  `Spec.EncFile` exactly the language of the parser.  That alone would also hold for a grammar
  that admits too FEW encodings (for a file without any encoding `C03.complete` is vacuous), and
  the AST types of the model are wider than the Rust types (`Int`, `Nat` instead of `u8` … `i64`).
  Hence a canonical encoder and a well-formedness predicate (Sml/Spec/Encoder.lean, parser-free):

  * `WFFile F`: every field of `F` is in the range of its Rust type (`group_no`, `abort_on_error`,
    `unit`, `sml_version`: u8; `scaler`: i8; `SecIndex`: u32; `I8`…`I64`, `U8`…`U64`,
    `Status8`…`Status64` with that width), every octet string is shorter than 2^32 - 8 bytes and
    every value list shorter than 2^32 entries (what a 32-bit type-length field can announce).
  * `encFile c F`: a computable encoder; `c : Choices` selects, independently for every field of
    every message, among the encodings the grammar admits: extra leading type-length-field bytes,
    the transmitted integer width (fewest bytes … nominal size), list-form or vendor-workaround
    time, 1- or 2-byte checksum field.

  * `enc_sound` (Lemmas/SpecEncSound.lean): for EVERY well-formed file and EVERY choice `c`,
    `encFile c F` is an encoding of `F` in the grammar; hence (`enc_roundtrip`,
    `enc_roundtrip_streaming`) both parsers return exactly `F` on it.  So `C03.complete` is
    non-vacuous for every well-formed file, in all the encoding variants.
  * `enc_wf` (Lemmas/SpecEncWf.lean): conversely the grammar only relates well-formed files to
    byte strings, hence (`parse_wf`) whatever the parsers return is in range for the Rust types.
  * `encodable_iff`: `WFFile` is EXACTLY the set of files that have an encoding / that the parser
    can return.  E.g. `groupNo = 300` has no encoding (`example` below).

  All statements hold for all files and all choices (no size bounds).
-/
namespace Sml.C03
open Sml Sml.Spec

/-! ### 1. files -/

/-- the allocating parser inverts the encoder, whatever the encoding choices -/
theorem enc_roundtrip (c : Choices) (F : File) (h : WFFile F) : parseFile (encFile c F) = .ok F :=
  complete F _ (enc_sound c F h)

/-- the streaming parser inverts the encoder: its events are error-free and reassemble to `F` -/
theorem enc_roundtrip_streaming (c : Choices) (F : File) (h : WFFile F) :
    ∃ evs : List ParseEvent,
      C09.events (encFile c F) = evs.map SParser.SItem.ev ∧ reassemble evs = some F.messages :=
  complete_streaming F _ (enc_sound c F h)

/-- everything the allocating parser returns is in range for the Rust types -/
theorem parse_wf (x : Bytes) (F : File) (h : parseFile x = .ok F) : WFFile F :=
  enc_wf F x (C04.sound x F h)

/-- ... and so is everything the streaming parser emits in an error-free run -/
theorem parse_wf_streaming (x : Bytes) (evs : List ParseEvent) (ms : List Message)
    (he : C09.events x = evs.map SParser.SItem.ev) (hr : reassemble evs = some ms) : WFFile ⟨ms⟩ :=
  enc_wf _ x (C04.sound_streaming x evs ms he hr)

/-- `WFFile` is exactly the domain of the grammar: a file has an encoding iff it is well-formed -/
theorem encodable_iff (F : File) : (∃ x, EncFile F x) ↔ WFFile F :=
  ⟨fun ⟨x, h⟩ => enc_wf F x h, fun h => ⟨encFile Choices.canonical F, enc_sound _ F h⟩⟩

/-- ... iff the parser can return it -/
theorem parseable_iff (F : File) : (∃ x, parseFile x = .ok F) ↔ WFFile F :=
  ⟨fun ⟨x, h⟩ => parse_wf x F h, fun h => ⟨_, enc_roundtrip Choices.canonical F h⟩⟩

/-- different choices that produce different bytes are different encodings of the same file: both
    parse to `F` -/
theorem enc_choices_agree (c c' : Choices) (F : File) (h : WFFile F) :
    parseFile (encFile c F) = parseFile (encFile c' F) :=
  (enc_roundtrip c F h).trans (enc_roundtrip c' F h).symm

/-! ### 2. integers (`beNat_toBe`, `twos_toBeSigned`: Lemmas/SpecEncNum; the other symbols:
  Lemmas/SpecEncTlf, SpecEncSound, SpecEncWf) -/

/-- Unsigned8/16/32/64 in any admissible width -/
theorem enc_sound_unsigned (c : FieldChoice) (size : Nat) (hs : size ∈ [1, 2, 4, 8]) (v : Int)
    (hv : InUns size v) : EncUnsigned size v (encUnsigned c size v) :=
  SpecEnc.enc_sound_unsigned c size v (SpecEnc.widths_le hs) hv

/-- Integer8/16/32/64 in any admissible width, value and sign -/
theorem enc_sound_signed (c : FieldChoice) (size : Nat) (hs : size ∈ [1, 2, 4, 8]) (v : Int)
    (hv : InInt size v) : EncSigned size v (encSigned c size v) :=
  SpecEnc.enc_sound_signed c size v (SpecEnc.widths_le hs) hv

/-! ### 3. non-vacuity -/

-- the sample file of C03 is well-formed
example : WFFile sampleFile := by decide +kernel

/-- fewest bytes everywhere: shortest type-length fields, integers in the fewest bytes of their
    class, list-form time, checksum in 1 byte where it fits -/
def cMin : Choices := .uniform { tlfExtra := 0, width := 0, timeWorkaround := false }

/-- one extra continuation byte in every type-length field, every integer in its nominal width,
    every time in the vendor-workaround form -/
def cWide : Choices := .uniform { tlfExtra := 1, width := 8, timeWorkaround := true }

/-- a mixed setting, chosen field by field so that the encoder reproduces the hand-written
    encoding `C03.sampleBytes`: body tags in 2 bytes, in the list response (message 1) the sensor
    time in workaround form, entry 1 with a 2-byte field for its name and its U32 in 3 bytes,
    entry 2 with a workaround time as value -/
def cSample : Choices := fun i =>
  let base : MessageChoices := { MessageChoices.uniform {} with bodyTag := { width := 0 } }
  if i = 1 then
    { base with getListRes :=
        { GetListChoices.uniform {} with
            actSensorTime := { timeWorkaround := true }
            entries := fun j =>
              if j = 1 then
                { EntryChoices.uniform {} with objName := { tlfExtra := 1 }, value := { width := 3 } }
              else if j = 2 then
                { EntryChoices.uniform {} with value := { timeWorkaround := true } }
              else .uniform {} } }
  else base

/-- as `cSample`, but the close response (message 2) with 2-byte fields for the message list, the
    transaction id and the group number: reproduces `C03.sampleBytes'` -/
def cSample' : Choices := fun i =>
  if i = 2 then
    { cSample 2 with tlf := { tlfExtra := 1 }, transactionId := { tlfExtra := 1 },
                     groupNo := { tlfExtra := 1 } }
  else cSample i

-- the two hand-proved encodings of C03 are outputs of the encoder
set_option maxRecDepth 100000 in
example : encFile cSample sampleFile = sampleBytes := by decide +kernel
set_option maxRecDepth 100000 in
example : encFile cSample' sampleFile = sampleBytes' := by decide +kernel

-- four settings, four different byte strings (150 … 200 bytes) ...
set_option maxRecDepth 100000 in
example : (encFile cMin sampleFile).length = 150 ∧ (encFile Choices.canonical sampleFile).length = 166 ∧
    (encFile cSample sampleFile).length = 154 ∧ (encFile cWide sampleFile).length = 200 := by
  decide +kernel

-- ... all parsed back to the same file (evaluated, independently of the theorems)
set_option maxRecDepth 100000 in
example : (parseFile (encFile cMin sampleFile)).toOption = some sampleFile := by decide +kernel
set_option maxRecDepth 100000 in
example : (parseFile (encFile cWide sampleFile)).toOption = some sampleFile := by decide +kernel
set_option maxRecDepth 100000 in
example : (parseFile (encFile Choices.canonical sampleFile)).toOption = some sampleFile := by
  decide +kernel
set_option maxRecDepth 100000 in
example : ((C09.evsOf (C09.events (encFile cWide sampleFile))).bind reassemble) =
    some sampleFile.messages := by decide +kernel
-- instances of the theorems
example : parseFile (encFile cMin sampleFile) = .ok sampleFile :=
  enc_roundtrip _ _ (by decide +kernel)
example : parseFile (encFile cWide sampleFile) = .ok sampleFile :=
  enc_roundtrip _ _ (by decide +kernel)

-- single fields: a negative I16 sent in 2 bytes; the I64 -129 in its fewest 5 bytes (the class
-- I64 needs more than 4) and in 8 bytes; a U32 sent in 3 and in 4 bytes
example : encValue { width := 0 } (.int 2 (-2)) = [0x53, 0xff, 0xfe] := by decide +kernel
example : encValue { width := 0 } (.int 8 (-129)) = [0x56, 0xff, 0xff, 0xff, 0xff, 0x7f] := by
  decide +kernel
example : encValue {} (.int 8 (-129)) = [0x59, 0xff, 0xff, 0xff, 0xff, 0xff, 0xff, 0xff, 0x7f] := by
  decide +kernel
example : encValue { width := 0 } (.uns 4 65536) = [0x64, 0x01, 0, 0] := by decide +kernel
example : encValue {} (.uns 4 65536) = [0x65, 0, 0x01, 0, 0] := by decide +kernel
-- both time encodings
example : encTime {} (.secIndex 7) = [0x72, 0x62, 0x01, 0x65, 0, 0, 0, 7] := by decide +kernel
example : encTime { width := 0 } (.secIndex 7) = [0x72, 0x62, 0x01, 0x62, 7] := by decide +kernel
example : encTime { timeWorkaround := true } (.secIndex 7) = [0x65, 0, 0, 0, 7] := by decide +kernel
-- type-length fields: 15 bytes need a 2-byte field; with two extra bytes; the longest octet string
example : encTlf 0 .octetString 14 = [0x0f] ∧ encTlf 0 .octetString 15 = [0x81, 0x01] ∧
    encTlf 2 .octetString 14 = [0x80, 0x81, 0x01] := by decide +kernel
example : encTlf 0 .octetString (2 ^ 32 - 9) = [0x8f, 0x8f, 0x8f, 0x8f, 0x8f, 0x8f, 0x8f, 0x0f] := by
  decide +kernel
-- a present empty optional octet string is never sent as `01`
example : encOptOctet {} (some []) = [0x80, 0x02] ∧ encOptOctet {} Option.none = [0x01] := by
  decide +kernel

/-- the extremes of every Rust type -/
def extremeEntry (v : Value) : ListEntry :=
  { objName := [], status := some (.status 8 (2 ^ 64 - 1)), valTime := some (.secIndex (2 ^ 32 - 1)),
    unit := some 255, scaler := some (-128), value := v, valueSignature := some [] }

def extremeFile : File :=
  { messages := [
      { transactionId := [], groupNo := 255, abortOnError := 255,
        messageBody := .getListResponse
          { clientId := some [], serverId := [], listName := none, actSensorTime := none,
            valList := [extremeEntry (.int 8 (-(2 ^ 63))), extremeEntry (.int 8 (2 ^ 63 - 1)),
              extremeEntry (.uns 8 (2 ^ 64 - 1)), extremeEntry (.int 1 (-128)),
              extremeEntry (.int 4 (-(2 ^ 23) - 1)), extremeEntry (.uns 2 256),
              extremeEntry (.bool true), extremeEntry (.bytes [])],
            listSignature := none, actGatewayTime := some (.secIndex 0) } },
      { transactionId := [0xd4, 0], groupNo := 0, abortOnError := 0,
        messageBody := .closeResponse ⟨none⟩ } ] }

example : WFFile extremeFile := by decide +kernel
set_option maxRecDepth 100000 in
example : (parseFile (encFile cMin extremeFile)).toOption = some extremeFile := by decide +kernel
set_option maxRecDepth 100000 in
example : (parseFile (encFile cWide extremeFile)).toOption = some extremeFile := by decide +kernel
-- with `cMin` the checksum of the second message is sent in ONE byte (`62 e7`)
example : encMessages (fun i => cMin (i + 1)) (extremeFile.messages.drop 1) =
    [0x76, 0x03, 0xd4, 0, 0x62, 0, 0x62, 0, 0x72, 0x63, 0x02, 0x01, 0x71, 0x01, 0x62, 0xe7, 0x00] := by
  decide +kernel

/-- out of range for `u8`: no encoding exists, and no input makes the parser return it -/
def badGroup : File :=
  { messages := [{ transactionId := [], groupNo := 300, abortOnError := 0,
                   messageBody := .closeResponse ⟨none⟩ }] }

example : ¬ ∃ x, EncFile badGroup x := fun h => absurd ((encodable_iff _).1 h) (by decide +kernel)
example : ¬ ∃ x, parseFile x = .ok badGroup :=
  fun h => absurd ((parseable_iff _).1 h) (by decide +kernel)
-- `I16` holding 40000, `U8` in class 4 (not a width), class 3: all outside the grammar
example : ¬ WFValue (.int 2 40000) ∧ ¬ WFValue (.uns 3 5) ∧ WFValue (.uns 4 5) := by decide +kernel

end Sml.C03
