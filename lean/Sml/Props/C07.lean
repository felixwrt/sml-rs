import Sml.Lemmas.FrameEncoders
/-
  Property C07.

  "For every payload, the buffer encoder and the iterator encoder produce the identical byte
  sequence, and it is the Transport v1 frame the specification defines: 1b1b1b1b 01010101, the
  payload with 1b1b1b1b inserted after every fourth consecutive 0x1b byte, zero bytes up to the
  next multiple of four, then 1b1b1b1b 1a, the pad count, and the little-endian CRC-16/X.25 of
  all preceding bytes.  The iterator encoder ends for good after the last byte, and the buffer
  encoder reports out-of-memory exactly when the frame does not fit the buffer."

  * model      : `encodeBuf`, `Enc.new` / `Enc.next` / `Enc.run`   (Sml/Model/Encode.lean)
  * spec       : `Spec.frame`, `Spec.stuff`, `Spec.padLen`          (Sml/Spec/Frame.lean)
  * `fitsCap cap n` (Sml/Lemmas/Buf.lean) is `True` for `cap = none` (a `Vec`) and
    `n ≤ c` for `cap = some c` (an `ArrayBuf<c>`); see `buf_vec` / `buf_array` for the unfolded statements.

  All theorems hold for payloads of every length and for every capacity.
-/
namespace Sml.C07

open Spec (stuff stuffFrom frame)

/-- The buffer encoder returns exactly the specified frame if it fits the buffer, and
`OutOfMemory` if (and only if) it does not. -/
theorem buf_eq_spec (p : List UInt8) (cap : Option Nat) :
    encodeBuf cap p =
      (if fitsCap cap (frame p).length then EncRes.ok (frame p) else EncRes.oom) := by
  rw [encodeBuf_eq, Buf.extend_eq]
  simp only [Buf.new, Buf.len, List.length_nil, Nat.zero_add]
  split <;> simp [finish, Buf.data]

/-- `encode::<Vec<u8>>` never fails -/
theorem buf_vec (p : List UInt8) : encodeBuf none p = EncRes.ok (frame p) := by
  rw [buf_eq_spec]; rfl

theorem buf_array (p : List UInt8) (c : Nat) :
    encodeBuf (some c) p = (if (frame p).length ≤ c then EncRes.ok (frame p) else EncRes.oom) := by
  simp only [buf_eq_spec, fitsCap_some]

/-- out-of-memory exactly when the frame does not fit -/
theorem buf_oom_iff (p : List UInt8) (c : Nat) :
    encodeBuf (some c) p = EncRes.oom ↔ c < (frame p).length := by
  rw [buf_array]
  split <;> simp <;> omega

/-- The first `|frame p|` calls of `next` yield exactly the bytes of the specified frame
(in particular no panic and no early `None`). -/
theorem iter_eq_spec (p : List UInt8) :
    ((Enc.new p).run (frame p).length).2 = (frame p).map EOut.byte := by
  obtain ⟨e', h, _⟩ := Enc.run_frame p
  exact congrArg Prod.snd h

/-- After the last byte of the frame, every further call of `next` returns `None`. -/
theorem iter_fused (p : List UInt8) (k : Nat) :
    (((Enc.new p).run (frame p).length).1.run k).2 = List.replicate k EOut.none := by
  obtain ⟨e', (h : _ = _), hst⟩ := Enc.run_frame p
  rw [h, Enc.run_fused hst]

theorem encoders_agree (p : List UInt8) :
    encodeBuf none p =
      EncRes.ok (((Enc.new p).run (frame p).length).2.filterMap
        (fun o => match o with | .byte b => some b | _ => none)) := by
  rw [buf_vec, iter_eq_spec, List.filterMap_map]
  exact congrArg _ (List.filterMap_some (l := frame p)).symm

/-- A payload without `0x1b` bytes is not changed. -/
theorem stuff_no_1b (p : List UInt8) (h : ∀ b ∈ p, b ≠ 0x1b) : stuff p = p :=
  Spec.stuffFrom_of_no_1b 0 h

/-- A byte other than `0x1b` is copied and ends the current run. -/
theorem stuff_cons_ne (b : UInt8) (rest : List UInt8) (h : b ≠ 0x1b) :
    stuff (b :: rest) = b :: stuff rest :=
  Spec.stuffFrom_cons_of_ne h 0 rest

/-- A run of `r` bytes `0x1b` gets `r / 4` escape sequences, i.e. becomes `r + 4 * (r / 4)` bytes
`0x1b`; what follows is stuffed with run counter `r % 4`. -/
theorem stuff_run_general (r : Nat) (rest : List UInt8) :
    stuff (List.replicate r 0x1b ++ rest) =
      List.replicate (r + 4 * (r / 4)) 0x1b ++ stuffFrom (r % 4) rest := by
  rw [Spec.stuff_append, stuff, Spec.stuffFrom_replicate_1b (by omega),
    Spec.ctr_replicate_1b (by omega), Nat.zero_add]

/-- A *maximal* run of `r` bytes `0x1b` at the start of the payload becomes `r + 4 * (r / 4)`
bytes `0x1b`, and the remainder is stuffed independently. -/
theorem stuff_run (r : Nat) (rest : List UInt8) (h : rest.head? ≠ some 0x1b) :
    stuff (List.replicate r 0x1b ++ rest) =
      List.replicate (r + 4 * (r / 4)) 0x1b ++ stuff rest := by
  rw [stuff_run_general, Spec.stuffFrom_of_head_ne _ h]
  rfl

/-- the documented example of encode.rs:152 -/
example : frame [0x12, 0x34, 0x56, 0x78] =
    [0x1b, 0x1b, 0x1b, 0x1b, 0x01, 0x01, 0x01, 0x01, 0x12, 0x34, 0x56, 0x78,
     0x1b, 0x1b, 0x1b, 0x1b, 0x1a, 0x00, 0xb8, 0x7b] := by decide +kernel

example : encodeBuf none [0x12, 0x34, 0x56, 0x78] = EncRes.ok
    [0x1b, 0x1b, 0x1b, 0x1b, 0x01, 0x01, 0x01, 0x01, 0x12, 0x34, 0x56, 0x78,
     0x1b, 0x1b, 0x1b, 0x1b, 0x1a, 0x00, 0xb8, 0x7b] := by decide +kernel

/-- `ArrayBuf<20>` succeeds, `ArrayBuf<19>` is out of memory (encode.rs:170-174) -/
example : encodeBuf (some 20) [0x12, 0x34, 0x56, 0x78] = EncRes.ok
    [0x1b, 0x1b, 0x1b, 0x1b, 0x01, 0x01, 0x01, 0x01, 0x12, 0x34, 0x56, 0x78,
     0x1b, 0x1b, 0x1b, 0x1b, 0x1a, 0x00, 0xb8, 0x7b] := by decide +kernel

example : encodeBuf (some 19) [0x12, 0x34, 0x56, 0x78] = EncRes.oom := by decide +kernel

/-- the iterator: 20 bytes, then `None`, `None` -/
example : ((Enc.new [0x12, 0x34, 0x56, 0x78]).run 22).2 =
    [0x1b, 0x1b, 0x1b, 0x1b, 0x01, 0x01, 0x01, 0x01, 0x12, 0x34, 0x56, 0x78,
     0x1b, 0x1b, 0x1b, 0x1b, 0x1a, 0x00, 0xb8, 0x7b].map EOut.byte ++ [EOut.none, EOut.none] := by
  decide +kernel

/-- stuffing and padding together: five `0x1b` and one more byte; one escape after the fourth
`0x1b`, two pad bytes -/
example : (frame [0x1b, 0x1b, 0x1b, 0x1b, 0x1b, 0x07]).take 26 =
    [0x1b, 0x1b, 0x1b, 0x1b, 0x01, 0x01, 0x01, 0x01,
     0x1b, 0x1b, 0x1b, 0x1b, 0x1b, 0x1b, 0x1b, 0x1b, 0x1b, 0x07, 0x00, 0x00,
     0x1b, 0x1b, 0x1b, 0x1b, 0x1a, 0x02] := by decide +kernel

example : ((Enc.new [0x1b, 0x1b, 0x1b, 0x1b, 0x1b, 0x07]).run 29).2 =
    (frame [0x1b, 0x1b, 0x1b, 0x1b, 0x1b, 0x07]).map EOut.byte ++ [EOut.none] := by
  decide +kernel

/-- the payload ends with the fourth `0x1b`: the escape is still inserted -/
example : stuff [0x01, 0x1b, 0x1b, 0x1b, 0x1b] =
    [0x01, 0x1b, 0x1b, 0x1b, 0x1b, 0x1b, 0x1b, 0x1b, 0x1b] := by decide

/-- eight `0x1b` in a row: two escapes -/
example : stuff (List.replicate 8 0x1b) = List.replicate 16 0x1b := by decide

/-- the out-of-memory branch of `buf_eq_spec` is reachable for every payload: no frame is
shorter than 16 bytes -/
example (p : List UInt8) : encodeBuf (some 15) p = EncRes.oom := by
  rw [buf_oom_iff, length_frame]
  omega

end Sml.C07
