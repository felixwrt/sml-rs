import Sml.Lemmas.Rdr
import Sml.Lemmas.DecRound
import Sml.Props.C07
/-
  Property C01.

  "For every byte payload (any length including empty, any content including runs of 0x1b, runs
  of 0x00 and look-alikes of the start and end sequences), the frame produced by either encoder,
  fed to any decoder front-end, yields exactly one result: the original payload, reported when the
  frame's last byte is consumed.  No error and no other output is produced before or after it."

  * model : `Dec.push` / `Dec.pushAll` / `Dec.finalize`            (Sml/Model/Decode.lean)
            `decodeAll`, `DecIter`, `Rdr`                          (Sml/Model/Frontends.lean)
            `encodeBuf`, `Enc`                                     (Sml/Model/Encode.lean)
  * spec  : `Spec.frame`                                           (Sml/Spec/Frame.lean)
  * by C07 (`Sml.C07.buf_vec`, `Sml.C07.iter_eq_spec`) both encoders produce exactly `Spec.frame p`.

  All theorems hold for payloads of every length and content; the only hypothesis is that the
  payload fits the decoder's buffer (`capFits`; vacuous for a `Vec` buffer, `cap = none`).
-/
namespace Sml.Rdr
open RF (view)

theorem trace_quiet (kind : SrcKind) {xs : List UInt8} {d d1 : Dec} (h : d.quiet xs = some d1) :
    trace kind d (xs.map Ev.byte) = [] ∧ decAfter kind d (xs.map Ev.byte) = d1 := by
  rw [trace_bytes, decAfter_bytes, Dec.pushAll_quiet h, Dec.filterMap_replicate_none]
  exact ⟨rfl, rfl⟩

theorem trace_delivers (kind : SrcKind) {d d' : Dec} {bytes p : List UInt8}
    (h : Dec.Delivers d bytes p d') :
    trace kind d (bytes.map Ev.byte) = [.ok p] ∧ decAfter kind d (bytes.map Ev.byte) = d' := by
  rw [trace_bytes, decAfter_bytes, h.pushAll, List.filterMap_append, Dec.filterMap_replicate_none]
  exact ⟨rfl, rfl⟩

/-- the bytes deliver `p` and nothing follows: the payload, then the idle answer of the entry point -/
theorem calls_delivers {cap : Option Nat} {d' : Dec} {bytes p : List UInt8} {kind : SrcKind}
    (hk : kind ≠ .eh) (h : Dec.Delivers (Dec.fresh cap) bytes p d') (c : Call) (k : Nat) :
    ((Rdr.new kind cap (bytes.map Ev.byte)).calls (c :: List.replicate k c)).2 =
      RItem.ok p :: List.replicate k (view c (.ioErr .eof 0)) := by
  have h0 : d'.reset.2 = 0 := by simp [Dec.reset, h.st]
  have := calls_replicate kind (Dec.fresh cap) (bytes.map Ev.byte) c (k + 1)
  rw [(trace_delivers kind h).1, (trace_delivers kind h).2, atEnd_of_ne hk, h0, idleItem_of_ne hk]
    at this
  refine this.trans ?_
  show padTo _ ([view c (.ok p)] ++ [view c (.ioErr .eof 0)]) (k + 1) = _
  rw [padTo_snoc_self, padTo_cons, padTo_nil, RF.view_ok_self]

end Sml.Rdr

namespace Sml.C01

open Spec (frame)

/-- a payload of `n` bytes fits a buffer of capacity `cap` (`none` = growable `Vec`).  Same body as
`C07.fitsCap` (Lemmas/Buf.lean), which the lemma modules use; the two are exchanged by `rfl`, C01 is
stated with this one. -/
def capFits (cap : Option Nat) (n : Nat) : Prop :=
  match cap with
  | none => True
  | some c => n ≤ c

/-- One `Ok(None)` per byte of the frame except the last, which reports the payload. -/
theorem roundtrip_push (p : List UInt8) (cap : Option Nat) (h : capFits cap p.length) :
    (Dec.pushAll (Dec.fresh cap) (frame p)).2 =
      List.replicate ((frame p).length - 1) Out.none ++ [Out.msg p] := by
  rw [(Dec.frame_delivered (Dec.fresh cap) p rfl rfl rfl h).pushAll]

/-- Nothing is pending afterwards: `finalize` reports no error. -/
theorem roundtrip_finalize (p : List UInt8) (cap : Option Nat) (h : capFits cap p.length) :
    (Dec.pushAll (Dec.fresh cap) (frame p)).1.finalize.2 = none := by
  rw [(Dec.frame_delivered (Dec.fresh cap) p rfl rfl rfl h).pushAll]
  rfl

/-- The decoder ends in `Done` holding exactly the payload (and nothing withheld). -/
theorem roundtrip_state (p : List UInt8) (cap : Option Nat) (h : capFits cap p.length) :
    (Dec.pushAll (Dec.fresh cap) (frame p)).1.st = .done ∧
      (Dec.pushAll (Dec.fresh cap) (frame p)).1.buf.data = p ∧
      (Dec.pushAll (Dec.fresh cap) (frame p)).1.zc = 0 := by
  rw [(Dec.frame_delivered (Dec.fresh cap) p rfl rfl rfl h).pushAll]
  exact ⟨rfl, List.reverse_reverse p, rfl⟩

/-- `decode(bytes)`: exactly one item, the payload (no trailing `DiscardedBytes`). -/
theorem roundtrip_decode (p : List UInt8) : decodeAll (frame p) = [Item.ok p] := by
  exact (decodeAll_go_eq _ (Dec.inv_fresh none)).trans
    (Dec.frame_delivered (Dec.fresh none) p rfl rfl rfl trivial).allItems.1

/-- `DecodeIterator`: the payload, then `None` on every further call. -/
theorem roundtrip_iter (p : List UInt8) (cap : Option Nat) (h : capFits cap p.length) (k : Nat) :
    (DecIter.new cap (frame p)).take (k + 1) = some (Item.ok p) :: List.replicate k none := by
  rw [DecIter.take_new, (Dec.frame_delivered (Dec.fresh cap) p rfl rfl rfl h).allItems.1]
  simp [padTo_cons, padTo_nil]

/-- `DecoderReader::next` over a slice / iterator (`mem`) or `std::io::Read` (`io`) source that
holds exactly the frame: the payload, then `None` on every further call. -/
theorem roundtrip_reader_next (p : List UInt8) (cap : Option Nat) (h : capFits cap p.length)
    (kind : SrcKind) (hk : kind = .mem ∨ kind = .io) (k : Nat) :
    ((Rdr.new kind cap ((frame p).map Ev.byte)).calls (Rdr.Call.next :: List.replicate k Rdr.Call.next)).2 =
      RItem.ok p :: List.replicate k RItem.none := by
  exact Rdr.calls_delivers (Rdr.ne_eh hk) (Dec.frame_delivered (Dec.fresh cap) p rfl rfl rfl h) .next k

/-- `DecoderReader::read`: the payload, then `Eof` with zero discarded bytes on every further call. -/
theorem roundtrip_reader_read (p : List UInt8) (cap : Option Nat) (h : capFits cap p.length)
    (kind : SrcKind) (hk : kind = .mem ∨ kind = .io) (k : Nat) :
    ((Rdr.new kind cap ((frame p).map Ev.byte)).calls (Rdr.Call.read :: List.replicate k Rdr.Call.read)).2 =
      RItem.ok p :: List.replicate k (RItem.ioErr .eof 0) := by
  exact Rdr.calls_delivers (Rdr.ne_eh hk) (Dec.frame_delivered (Dec.fresh cap) p rfl rfl rfl h) .read k

/-- what a consumer of the iterator encoder collects: the bytes up to the first `None` -/
def collect : List EOut → List UInt8
  | .byte b :: rest => b :: collect rest
  | _ => []

theorem collect_bytes (l : List UInt8) (k : Nat) :
    collect (l.map EOut.byte ++ List.replicate k EOut.none) = l := by
  induction l with
  | nil => cases k <;> rfl
  | cons x xs ih => simp [collect, ih]

/-- The buffer encoder's output decodes to the payload. -/
theorem roundtrip_encodeBuf (p : List UInt8) (cap : Option Nat) (h : capFits cap p.length) :
    ∃ bytes, encodeBuf none p = EncRes.ok bytes ∧
      (Dec.pushAll (Dec.fresh cap) bytes).2 =
        List.replicate (bytes.length - 1) Out.none ++ [Out.msg p] ∧
      (Dec.pushAll (Dec.fresh cap) bytes).1.finalize.2 = none ∧
      decodeAll bytes = [Item.ok p] :=
  ⟨frame p, C07.buf_vec p, roundtrip_push p cap h, roundtrip_finalize p cap h, roundtrip_decode p⟩

/-- The iterator encoder, polled until it returns `None` (any number `k` of extra polls), yields
bytes that decode to the payload. -/
theorem roundtrip_encodeIter (p : List UInt8) (cap : Option Nat) (h : capFits cap p.length)
    (k : Nat) :
    let bytes := collect ((Enc.new p).run ((frame p).length + k)).2
    (Dec.pushAll (Dec.fresh cap) bytes).2 =
        List.replicate (bytes.length - 1) Out.none ++ [Out.msg p] ∧
      (Dec.pushAll (Dec.fresh cap) bytes).1.finalize.2 = none ∧
      decodeAll bytes = [Item.ok p] := by
  simp only [Enc.run_frame_add, collect_bytes]
  exact ⟨roundtrip_push p cap h, roundtrip_finalize p cap h, roundtrip_decode p⟩

/-- ... and polled exactly `|frame p|` times it has produced exactly these bytes (C07). -/
theorem encodeIter_bytes (p : List UInt8) :
    collect ((Enc.new p).run (frame p).length).2 = frame p := by
  rw [C07.iter_eq_spec]
  simpa using collect_bytes (frame p) 0

/-- a single 0x1b: aligned frame ending in one 0x1b (re-alignment branch of the decoder) -/
example : (Dec.pushAll (Dec.fresh none) (frame [0x1b, 0x02, 0x03, 0x1b])).2 =
    List.replicate 19 Out.none ++ [Out.msg [0x1b, 0x02, 0x03, 0x1b]] := by decide +kernel

example : (Dec.pushAll (Dec.fresh (some 1)) (frame [0x1b])).2 =
    List.replicate 19 Out.none ++ [Out.msg [0x1b]] := by decide +kernel

/-- four 0x1b: one literal escape -/
example : (Dec.pushAll (Dec.fresh (some 4)) (frame [0x1b, 0x1b, 0x1b, 0x1b])).2 =
    List.replicate 23 Out.none ++ [Out.msg [0x1b, 0x1b, 0x1b, 0x1b]] := by decide +kernel

/-- five zeros: four withheld, padding zeros on top -/
example : (Dec.pushAll (Dec.fresh (some 5)) (frame [0, 0, 0, 0, 0])).2 =
    List.replicate 23 Out.none ++ [Out.msg [0, 0, 0, 0, 0]] := by decide +kernel

/-- the payload is the start sequence -/
example : decodeAll (frame [0x1b, 0x1b, 0x1b, 0x1b, 0x01, 0x01, 0x01, 0x01]) =
    [Item.ok [0x1b, 0x1b, 0x1b, 0x1b, 0x01, 0x01, 0x01, 0x01]] := by decide +kernel

/-- the payload looks like an end sequence -/
example : decodeAll (frame [0x1b, 0x1b, 0x1b, 0x1b, 0x1a, 0x00, 0x12, 0x34]) =
    [Item.ok [0x1b, 0x1b, 0x1b, 0x1b, 0x1a, 0x00, 0x12, 0x34]] := by decide +kernel

/-- the empty payload -/
example : decodeAll (frame []) = [Item.ok []] := by decide +kernel

example : (DecIter.new (some 3) (frame [0x1b, 0x1b, 0x1b])).take 3 =
    [some (Item.ok [0x1b, 0x1b, 0x1b]), none, none] := by decide +kernel

example : ((Rdr.new .io none ((frame [0x1b, 0x1b, 0x00]).map Ev.byte)).calls [.next, .next, .read]).2 =
    [RItem.ok [0x1b, 0x1b, 0x00], RItem.none, RItem.ioErr .eof 0] := by decide +kernel

/-- the hypothesis of the capacity-bounded theorems is satisfiable with equality -/
example : capFits (some 4) ([1, 2, 3, 4] : List UInt8).length := Nat.le_refl 4

end Sml.C01
