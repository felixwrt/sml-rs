import Sml.Lemmas.TlfNum
/-
  Property C12.

  "For every type-length field, however many bytes it spans, the parser uses exactly the length
   the SML rule prescribes (the concatenated 4-bit groups, minus the field's own size for non-list
   types) or returns an error when that value is negative, does not fit 32 bits, or reserved type
   bits are used; it never proceeds with a wrapped or truncated length.  Every integer of 1-8
   bytes is returned with exactly its big-endian two's-complement (signed) or plain (unsigned)
   value in the narrowest standard width holding its encoded size, booleans as a non-zero test,
   and byte strings as exactly the designated bytes."

  All statements hold for every input (no length bound).  The rule for the field is the
  independent positional specification `Spec.tlfSpec` (Sml/Spec/TlfSpec.lean).

  The theorems of this property that the parser lemmas build on stand in Lemmas/TlfNum.lean:
  `tlf_rest`, `parseTlf_eq_rule`, `tlf_error_iff`, `tlf_no_wrap`, `tlf_no_panic` (1, 2) and
  `parseNum_exact` with the definitions `twos`, `plain` (3).
-/
namespace Sml.C12
open Sml

/-! ### 1. type-length field = the SML rule -/

/-- value, number of consumed bytes and error kind of `parseTlf` are exactly those of the rule -/
theorem tlf_eq_spec (bs : Bytes) :
    (match parseTlf bs with
      | .ok (t, rest) => (Except.ok (t, bs.length - rest.length) : Except PErr (Tlf × Nat))
      | .error e => .error e) = Spec.tlfSpec bs :=
  parseTlf_eq_spec bs

/-- the agreement with the rule, remaining input included -/
theorem tlf_iff (bs : Bytes) (t : Tlf) (rest : Bytes) :
    parseTlf bs = .ok (t, rest) ↔
      ∃ n, Spec.tlfSpec bs = .ok (t, n) ∧ rest = bs.drop n ∧ n ≤ bs.length := by
  constructor
  · intro h
    obtain ⟨e, rfl, _⟩ := parseTlf_frame h
    exact ⟨e.length, by rw [← parseTlf_eq_spec, h]; simp [tlfConsumed], by simp, by simp⟩
  · rintro ⟨n, h1, h2, _⟩
    rw [parseTlf_eq_rule, h1, h2]

/-- If `parseTlf` succeeds, the remaining input `rest` is a suffix of the input and the number of
bytes of the field (`tlf_len` in tlf.rs:69, a `usize`), `bs.length - rest.length`, is at least 1 and
at most the input length. -/
theorem tlf_consumes_prefix (bs : Bytes) (t : Tlf) (rest : Bytes)
    (h : parseTlf bs = .ok (t, rest)) :
    rest.length ≤ bs.length ∧ 1 ≤ bs.length - rest.length ∧ bs.length - rest.length ≤ bs.length ∧
      (∃ pre, bs = pre ++ rest ∧ pre.length = bs.length - rest.length) := by
  obtain ⟨e, rfl, _, _⟩ := parseTlf_frame h
  simp only [List.length_append]
  exact ⟨by omega, by omega, by omega, e, rfl, by omega⟩

example : parseTlf [0x83, 0x02, 0xaa] = .ok (⟨.octetString, 48⟩, [0xaa]) := rfl

/-- the same for the byte count of the positional rule `Spec.tlfSpec` (which by `tlf_eq_spec` is
the number of bytes `parseTlf` consumes) -/
theorem tlfSpec_len_le (bs : Bytes) (t : Tlf) (n : Nat) (h : Spec.tlfSpec bs = .ok (t, n)) :
    1 ≤ n ∧ n ≤ bs.length := by
  rw [← parseTlf_eq_spec] at h
  cases hp : parseTlf bs with
  | error e => rw [hp] at h; cases h
  | ok v =>
    obtain ⟨t', r⟩ := v
    obtain ⟨e, rfl, he, _⟩ := parseTlf_frame hp
    rw [hp] at h
    simp only [tlfConsumed, List.length_append, Except.ok.injEq, Prod.mk.injEq] at h ⊢
    omega

example : Spec.tlfSpec [0x83, 0x02, 0xaa] = .ok (⟨.octetString, 48⟩, 2) := rfl

/-! ### 2. no wrapped length -/

/-- a field may span arbitrarily many bytes (here `n + 2`, e.g. more than 2^32): its own size is
    still subtracted exactly, so the value 5 underflows instead of wrapping -/
theorem tlf_long_field (n : Nat) (hn : 4 ≤ n) :
    parseTlf (List.replicate (n + 1) (0x80 : UInt8) ++ [0x05]) = .error .tlfLengthUnderflow := by
  have h1 : tlfTyBits 0x80 = 0 := by decide
  have h2 : tlfNibble 0x80 = 0 := by decide
  have h3 : tlfMore 0x80 = true := by decide
  rw [List.replicate_succ, List.cons_append, parseTlf]
  simp only [h1, h2, h3, Ty.ofBits, if_true, tlfLoop_zeros]
  have : 1 + n + 1 > u32Max ∨ 5 < 1 + n + 1 := Or.inr (by omega)
  simp [this]

/-! ### 3. integers -/

theorem int_exact (signed : Bool) (size : Nat) (_hs : size ∈ [1, 2, 4, 8]) (tlf : Tlf)
    (input : Bytes) (h : numCheck signed size tlf = true) :
    parseNum signed size input tlf =
      (if input.length < tlf.len then .error .unexpectedEOF
       else .ok ((if signed then twos (input.take tlf.len) else plain (input.take tlf.len)),
                 input.drop tlf.len)) :=
  parseNum_exact signed size tlf input h

/-! ### 4. width class -/

/-- the narrowest of 1/2/4/8 bytes (8/16/32/64 bits) holding `w` bytes.  The grammar says the same
    as a relation, `Spec.WidthClass w size` (`size = narrow w` for `w ≤ 8`: `Gram.widthClass_iff`,
    by `narrow_least`); Spec/Grammar.lean mentions no proof module. -/
def narrow (w : Nat) : Nat := if w ≤ 1 then 1 else if w ≤ 2 then 2 else if w ≤ 4 then 4 else 8

theorem value_int_class (w : Nat) (hw : 1 ≤ w ∧ w ≤ 8) (input : Bytes) :
    parseValueWith input ⟨.integer, w⟩ =
      mapRes (Value.int (narrow w)) (parseNum true (narrow w) input ⟨.integer, w⟩) := by
  rcases cases_1_8 w hw with h | h | h | h | h | h | h | h <;> subst h <;> rfl

theorem value_uns_class (w : Nat) (hw : 1 ≤ w ∧ w ≤ 8) (input : Bytes) :
    parseValueWith input ⟨.unsigned, w⟩ =
      mapRes (Value.uns (narrow w)) (parseNum false (narrow w) input ⟨.unsigned, w⟩) := by
  rcases cases_1_8 w hw with h | h | h | h | h | h | h | h <;> subst h <;> rfl

theorem status_class (w : Nat) (hw : 1 ≤ w ∧ w ≤ 8) (input : Bytes) :
    parseStatusWith input ⟨.unsigned, w⟩ =
      mapRes (Status.status (narrow w)) (parseNum false (narrow w) input ⟨.unsigned, w⟩) := by
  rcases cases_1_8 w hw with h | h | h | h | h | h | h | h <;> subst h <;> rfl

theorem value_int_reject (w : Nat) (h : w = 0 ∨ 8 < w) (input : Bytes) :
    parseValueWith input ⟨.integer, w⟩ = .error .tlfMismatch ∧
    parseValueWith input ⟨.unsigned, w⟩ = .error .tlfMismatch ∧
    parseStatusWith input ⟨.unsigned, w⟩ = .error .tlfMismatch := by
  have e1 : ∀ s, s ≤ 8 → ¬ (w ≤ s ∧ ¬ w = 0) := by intro s hs; omega
  refine ⟨?_, ?_, ?_⟩ <;>
    simp [parseValueWith, parseStatusWith, boolCheck, octetCheck, numCheck, listTypeCheck,
      e1 1, e1 2, e1 4, e1 8]

theorem narrow_mem (w : Nat) : narrow w ∈ [1, 2, 4, 8] := by
  unfold narrow
  repeat' split
  all_goals simp

theorem narrow_ge (w : Nat) (hw : w ≤ 8) : w ≤ narrow w := by
  unfold narrow
  repeat' split
  all_goals omega

theorem narrow_min (w s : Nat) (hs : s ∈ [1, 2, 4, 8]) (h : w ≤ s) : narrow w ≤ s := by
  simp only [List.mem_cons, List.not_mem_nil, or_false] at hs
  unfold narrow
  split
  · omega
  split
  · omega
  split <;> omega

/-- so `narrow w` is THE narrowest standard width holding `w ≤ 8` bytes -/
theorem narrow_least (w : Nat) (hw : w ≤ 8) :
    narrow w ∈ [1, 2, 4, 8] ∧ w ≤ narrow w ∧ ∀ s ∈ [1, 2, 4, 8], w ≤ s → narrow w ≤ s :=
  ⟨narrow_mem w, narrow_ge w hw, fun s hs h => narrow_min w s hs h⟩

theorem narrow_check_int (w : Nat) (hw : 1 ≤ w ∧ w ≤ 8) :
    numCheck true (narrow w) ⟨.integer, w⟩ = true :=
  (numCheck_iff _ _ _).2 ⟨rfl, hw.1, narrow_ge w hw.2⟩

theorem narrow_check_uns (w : Nat) (hw : 1 ≤ w ∧ w ≤ 8) :
    numCheck false (narrow w) ⟨.unsigned, w⟩ = true :=
  (numCheck_iff _ _ _).2 ⟨rfl, hw.1, narrow_ge w hw.2⟩

/-- 3 + 4 combined: a signed integer field of `w ∈ 1..8` bytes yields the two's-complement value
    of exactly the next `w` bytes, in width class `narrow w`; too little input is `UnexpectedEOF` -/
theorem value_int_exact (w : Nat) (hw : 1 ≤ w ∧ w ≤ 8) (input : Bytes) :
    parseValueWith input ⟨.integer, w⟩ =
      if input.length < w then .error .unexpectedEOF
      else .ok (Value.int (narrow w) (twos (input.take w)), input.drop w) := by
  rw [value_int_class w hw, int_exact true (narrow w) (narrow_mem w) _ _ (narrow_check_int w hw)]
  by_cases hl : input.length < w <;> simp [hl, mapRes]

/-- the same for unsigned fields: plain big-endian value -/
theorem value_uns_exact (w : Nat) (hw : 1 ≤ w ∧ w ≤ 8) (input : Bytes) :
    parseValueWith input ⟨.unsigned, w⟩ =
      if input.length < w then .error .unexpectedEOF
      else .ok (Value.uns (narrow w) (plain (input.take w)), input.drop w) := by
  rw [value_uns_class w hw, int_exact false (narrow w) (narrow_mem w) _ _ (narrow_check_uns w hw)]
  by_cases hl : input.length < w <;> simp [hl, mapRes]

/-- the same for status words -/
theorem status_exact (w : Nat) (hw : 1 ≤ w ∧ w ≤ 8) (input : Bytes) :
    parseStatusWith input ⟨.unsigned, w⟩ =
      if input.length < w then .error .unexpectedEOF
      else .ok (Status.status (narrow w) (plain (input.take w)), input.drop w) := by
  rw [status_class w hw, int_exact false (narrow w) (narrow_mem w) _ _ (narrow_check_uns w hw)]
  by_cases hl : input.length < w <;> simp [hl, mapRes]

/-! ### 5. booleans and byte strings -/

theorem bool_exact (input : Bytes) (tlf : Tlf) :
    parseBoolWith input tlf =
      match input with
      | [] => .error .unexpectedEOF
      | b :: rest => .ok (decide (b ≠ 0), rest) := by
  cases input with
  | nil => rfl
  | cons b rest => simp [parseBoolWith, takeByte, UInt8.pos_iff_ne_zero]

theorem octet_exact (input : Bytes) (tlf : Tlf) :
    parseOctetWith input tlf =
      if input.length < tlf.len then .error .unexpectedEOF
      else .ok (input.take tlf.len, input.drop tlf.len) := rfl

/-! ### 6. non-vacuity -/

-- value 0x8000000b would need 33 bits (the former `checked_shl` accepted this as length 2)
example : parseTlf [0x81,0x80,0x80,0x80,0x80,0x80,0x80,0x80,0x0b] = .error .tlfLengthOverflow := rfl
example : Spec.tlfSpec [0x81,0x80,0x80,0x80,0x80,0x80,0x80,0x80,0x0b] = .error .tlfLengthOverflow := rfl
-- the largest lengths are accepted unchanged
example : parseTlf [0xff,0x8f,0x8f,0x8f,0x8f,0x8f,0x8f,0x0e] = .ok (⟨.listOf, 4294967294⟩, []) := rfl
example : Spec.tlfSpec [0xff,0x8f,0x8f,0x8f,0x8f,0x8f,0x8f,0x0e] = .ok (⟨.listOf, 4294967294⟩, 8) := rfl
example : parseTlf [0x8f,0x8f,0x8f,0x8f,0x8f,0x8f,0x8f,0x0f] = .ok (⟨.octetString, 4294967287⟩, []) := rfl
example : parseTlf [0x83, 0x02] = .ok (⟨.octetString, 48⟩, []) := rfl
example : parseTlf [0x83, 0x02, 0xaa] = .ok (⟨.octetString, 48⟩, [0xaa]) := rfl
example : parseTlf [0x01] = .ok (⟨.octetString, 0⟩, []) := rfl
example : parseTlf [0x72, 0x99] = .ok (⟨.listOf, 2⟩, [0x99]) := rfl
-- every error kind occurs
example : parseTlf [0x00] = .error .tlfLengthUnderflow := rfl
example : parseTlf [0x80, 0x01] = .error .tlfLengthUnderflow := rfl
example : parseTlf [0xc2] = .error .tlfReserved := rfl
example : parseTlf [0x15] = .error .tlfInvalidTy := rfl
example : parseTlf [0x81, 0x12] = .error .tlfNextByteTypeMismatch := rfl
example : parseTlf [0x81] = .error .unexpectedEOF := rfl
example : parseTlf [] = .error .unexpectedEOF := rfl
-- integers: sign extension and width classes
example : twos [0xff, 0xfe] = -2 := by decide
example : twos [0x7f, 0xff, 0xfe] = 8388606 := by decide
example : plain [0xff, 0xfe] = 65534 := by decide
example : narrow 3 = 4 ∧ narrow 5 = 8 ∧ narrow 1 = 1 ∧ narrow 2 = 2 := by decide
example : parseValue [0x53, 0xff, 0xfe] = .ok (Value.int 2 (-2), []) := rfl
example : parseValue [0x54, 0xff, 0xff, 0xfe] = .ok (Value.int 4 (-2), []) := rfl
example : parseValue [0x54, 0x7f, 0xff, 0xfe] = .ok (Value.int 4 8388606, []) := rfl
example : parseValue [0x59, 0x80, 0, 0, 0, 0, 0, 0, 0] =
    .ok (Value.int 8 (-9223372036854775808), []) := rfl
example : parseValue [0x69, 0xff, 0xff, 0xff, 0xff, 0xff, 0xff, 0xff, 0xff] =
    .ok (Value.uns 8 18446744073709551615, []) := rfl
example : parseValue [0x64, 0x01, 0x00, 0x00] = .ok (Value.uns 4 65536, []) := rfl
example : parseValue [0x5a, 0, 0, 0, 0, 0, 0, 0, 0, 0] = .error .tlfMismatch := rfl
example : parseValue [0x51] = .error .tlfMismatch := rfl
example : parseInt true 2 [0x53, 0xff, 0xfe] = .ok (-2, []) := rfl
example : parseInt true 8 [0x52, 0x80] = .ok (-128, []) := rfl
example : parseInt true 2 [0x53, 0xff] = .error .unexpectedEOF := rfl
example : parseStatus [0x63, 0x01, 0x82] = .ok (Status.status 2 386, []) := rfl
-- booleans and byte strings
example : parseValue [0x42, 0x02] = .ok (Value.bool true, []) := rfl
example : parseValue [0x42, 0x00] = .ok (Value.bool false, []) := rfl
example : parseValue [0x03, 0xca, 0xfe, 0x99] = .ok (Value.bytes [0xca, 0xfe], [0x99]) := rfl
example : parseValue [0x03, 0xca] = .error .unexpectedEOF := rfl

end Sml.C12
