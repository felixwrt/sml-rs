import Sml.Lemmas.DecCap
import Sml.Lemmas.Rdr
/-
  Property C15.

  "For every byte stream, the push decoder with finalize, decode, decode_streaming, and
  DecoderReader/SmlReader over a slice, an iterator or an io::Read report the same sequence of
  payloads and decode errors; only the representation of leftover bytes at end of input differs
  (a trailing discarded-bytes error versus an end-of-file error carrying the same count).  The
  buffer type does not change any result as long as its capacity is never exceeded (a capacity of
  at least the stream length always suffices)."

  * model : `Dec.pushAll` + `Dec.finalize` (the push decoder), `decodeAll` (`decode`),
    `DecIter` (`decode_streaming`), `Rdr` with `SrcKind.mem` (slice / iterator source) or
    `SrcKind.io` (`io::Read`) over the events `s.map Ev.byte` (a source without faults), all in
    Sml/Model/Frontends.lean.
  * reference sequence : `items (pushAll (fresh cap) s).2` — the non-`None` results of the
    `push_byte` calls — followed by what `finalize` reports (`finalItem`).
  * helper definitions from Sml/Lemmas/DecFront.lean used in the statements:
      `padTo x l k = (l ++ List.replicate k x).take k`   ("`l`, then `x` forever", first `k`),
      `cutNone`  (the elements of a `List (Option α)` before the first `none`),
      `Item.toR` (`ok m ↦ RItem.ok m`, `err e ↦ RItem.decErr e`, `panic s ↦ RItem.panic s`),
      `DecIter.take it k`  (the results of `k` successive `next` calls; in the model),
      `Rdr.calls r (List.replicate k .next)` (the results of `k` successive `next` calls).
  * `SmlReader` is `DecoderReader` plus parsing of each `ok` payload (Sml/Model/SmlReader.lean);
    what it receives from the transport layer is exactly the `Rdr` sequence characterised here.

  All theorems hold for every stream and (where a capacity occurs) every capacity.
-/
namespace Sml.C15

/-- the reference: push every byte, then finalize -/
def reference (cap : Option Nat) (s : List UInt8) : List Item :=
  items (Dec.pushAll (Dec.fresh cap) s).2 ++ finalItem (Dec.pushAll (Dec.fresh cap) s).1

theorem decode_eq (s : List UInt8) :
    decodeAll s =
      items (Dec.pushAll (Dec.fresh none) s).2 ++
        (match (Dec.pushAll (Dec.fresh none) s).1.finalize.2 with
          | some e => [Item.err e]
          | none => []) :=
  decodeAll_go_eq s (Dec.inv_fresh none)

/-- the first `k` results of `DecodeIterator::next`, for every `k`: the reference items, then
`None` forever -/
theorem iter_take_eq (cap : Option Nat) (s : List UInt8) (k : Nat) :
    (DecIter.new cap s).take k = padTo none ((reference cap s).map some) k :=
  DecIter.take_new cap s k

/-- collect the results of `n` calls of `next` up to the first `None` -/
def collect (it : DecIter) (n : Nat) : List Item := cutNone (it.take n)

theorem iter_eq_of_lt (cap : Option Nat) (s : List UInt8) (n : Nat)
    (h : (reference cap s).length < n) : collect (DecIter.new cap s) n = reference cap s := by
  unfold collect
  rw [iter_take_eq]
  exact cutNone_padTo _ h

/-- Collecting until the first `None` gives the reference sequence; `|s| + 2` calls (indeed any
number above `|reference|`) are enough to see the `None`. -/
theorem iter_eq (cap : Option Nat) (s : List UInt8) :
    collect (DecIter.new cap s) (s.length + 2) = reference cap s :=
  iter_eq_of_lt cap s _ (Nat.lt_succ_of_le (Dec.allItems_length_le _ s))

/-- every call after the reference items returns `None` -/
theorem iter_later_none (cap : Option Nat) (s : List UInt8) (k i : Nat) (hi : i < k)
    (h : (reference cap s).length ≤ i) : ((DecIter.new cap s).take k)[i]? = some none := by
  rw [iter_take_eq, getElem?_padTo _ _ _ _ hi, List.getElem?_eq_none (by simpa using h)]
  rfl

/-- `finalize` reports nothing or `DiscardedBytes(raw)` with `raw > 0`; so `finalRItem` is the
image of `finalItem` with the same count -/
theorem finalItem_cases (cap : Option Nat) (s : List UInt8) :
    let d := (Dec.pushAll (Dec.fresh cap) s).1
    (finalItem d = [] ∧ finalRItem d = []) ∨
      ∃ n, 0 < n ∧ finalItem d = [Item.err (.discarded n)] ∧ finalRItem d = [RItem.ioErr .eof n] := by
  intro d
  unfold finalItem finalRItem
  rw [Dec.finalize_eq_reset (Dec.pushAll_inv s (Dec.inv_fresh cap))]
  by_cases h0 : d.reset.2 = 0
  · rw [if_pos h0]; exact Or.inl ⟨rfl, rfl⟩
  · rw [if_neg h0]; exact Or.inr ⟨d.reset.2, by omega, rfl, rfl⟩

/-- The first `k` results of `DecoderReader::next`, for every `k`: the same payloads and decode
errors (as `RItem`s), then — if `finalize` would report `DiscardedBytes(n)` — one `Eof` error
carrying the same `n`, then `None` forever. -/
theorem reader_eq (kind : SrcKind) (hk : kind = .mem ∨ kind = .io) (cap : Option Nat)
    (s : List UInt8) (k : Nat) :
    ((Rdr.new kind cap (s.map Ev.byte)).calls (List.replicate k .next)).2 =
      padTo RItem.none
        ((items (Dec.pushAll (Dec.fresh cap) s).2).map Item.toR ++
          finalRItem (Dec.pushAll (Dec.fresh cap) s).1) k := by
  exact Rdr.nexts_eq (Rdr.ne_eh hk) s (Dec.inv_fresh cap) k

/-- after a delivered transmission `finalize` reports nothing -/
theorem finalize_of_done {d : Dec} (h : d.st = .done) : d.finalize.2 = none := by
  simp [Dec.finalize, h]

/-- then the reference is the items among the `push_byte` results ... -/
theorem reference_of_finalize_none {cap : Option Nat} {s : List UInt8}
    (h : (Dec.pushAll (Dec.fresh cap) s).1.finalize.2 = none) :
    reference cap s = items (Dec.pushAll (Dec.fresh cap) s).2 := by
  unfold reference finalItem
  rw [h, List.append_nil]

/-- ... and `DecoderReader::next` reports exactly the reference (as `RItem`s), then `None` forever,
like `decode` (`decode_eq`) and `decode_streaming` (`iter_take_eq`) -/
theorem reader_eq_reference (kind : SrcKind) (hk : kind = .mem ∨ kind = .io) {cap : Option Nat}
    {s : List UInt8} (h : (Dec.pushAll (Dec.fresh cap) s).1.finalize.2 = none) (k : Nat) :
    ((Rdr.new kind cap (s.map Ev.byte)).calls (List.replicate k .next)).2 =
      padTo RItem.none ((reference cap s).map Item.toR) k := by
  rw [reader_eq kind hk, reference_of_finalize_none h]
  unfold finalRItem
  rw [h, List.append_nil]

/-- the reference depends on the `push_byte` results and the `finalize` result only -/
theorem reference_congr {c c' : Option Nat} {s : List UInt8}
    (h1 : (Dec.pushAll (Dec.fresh c) s).2 = (Dec.pushAll (Dec.fresh c') s).2)
    (h2 : (Dec.pushAll (Dec.fresh c) s).1.finalize.2 = (Dec.pushAll (Dec.fresh c') s).1.finalize.2) :
    reference c s = reference c' s := by
  unfold reference finalItem
  rw [h1, h2]

theorem fresh_sim (s : List UInt8) (N : Nat) (h : s.length ≤ N) :
    Dec.pushAll (Dec.fresh (some N)) s =
      ((Dec.pushAll (Dec.fresh none) s).1.withCap (some N), (Dec.pushAll (Dec.fresh none) s).2) :=
  Dec.pushAll_sim (c := some N) s (Dec.inv_fresh none) rfl (by simpa [Dec.fresh] using h)

/-- An `ArrayBuf<N>` with `N ≥ |s|` gives exactly the results of a `Vec<u8>`. -/
theorem buffer_independent (s : List UInt8) (N : Nat) (h : s.length ≤ N) :
    (Dec.pushAll (Dec.fresh (some N)) s).2 = (Dec.pushAll (Dec.fresh none) s).2 := by
  rw [fresh_sim s N h]

/-- ... and the same final state up to the capacity, hence the same `finalize` result -/
theorem buffer_independent_final (s : List UInt8) (N : Nat) (h : s.length ≤ N) :
    (Dec.pushAll (Dec.fresh (some N)) s).1 = (Dec.pushAll (Dec.fresh none) s).1.withCap (some N) ∧
    (Dec.pushAll (Dec.fresh (some N)) s).1.finalize.2 =
      (Dec.pushAll (Dec.fresh none) s).1.finalize.2 := by
  rw [fresh_sim s N h]
  exact ⟨rfl, rfl⟩

/-- all front-ends over an `ArrayBuf<N>`, `N ≥ |s|`, report the `Vec<u8>` reference -/
theorem reference_buffer_independent (s : List UInt8) (N : Nat) (h : s.length ≤ N) :
    reference (some N) s = reference none s :=
  reference_congr (buffer_independent s N h) (buffer_independent_final s N h).2

/-- 2 noise bytes, the frame of `12 34 56 78`, then 9 bytes of an unfinished frame -/
def sample : List UInt8 :=
  [0xaa, 0x1b,
   0x1b, 0x1b, 0x1b, 0x1b, 0x01, 0x01, 0x01, 0x01, 0x12, 0x34, 0x56, 0x78,
   0x1b, 0x1b, 0x1b, 0x1b, 0x1a, 0x00, 0xb8, 0x7b,
   0x1b, 0x1b, 0x1b, 0x1b, 0x01, 0x01, 0x01, 0x01, 0x05]

example : reference none sample =
    [.err (.discarded 2), .ok [0x12, 0x34, 0x56, 0x78], .err (.discarded 9)] := by
  decide +kernel

example : decodeAll sample =
    [.err (.discarded 2), .ok [0x12, 0x34, 0x56, 0x78], .err (.discarded 9)] := by
  decide +kernel

example : (DecIter.new none sample).take 5 =
    [some (.err (.discarded 2)), some (.ok [0x12, 0x34, 0x56, 0x78]), some (.err (.discarded 9)),
      none, none] := by
  decide +kernel

example : collect (DecIter.new none sample) (sample.length + 2) =
    [.err (.discarded 2), .ok [0x12, 0x34, 0x56, 0x78], .err (.discarded 9)] := by
  decide +kernel

example : ((Rdr.new .io none (sample.map Ev.byte)).calls (List.replicate 5 .next)).2 =
    [.decErr (.discarded 2), .ok [0x12, 0x34, 0x56, 0x78], .ioErr .eof 9, .none, .none] := by
  decide +kernel

example : ((Rdr.new .mem none (sample.map Ev.byte)).calls (List.replicate 5 .next)).2 =
    [.decErr (.discarded 2), .ok [0x12, 0x34, 0x56, 0x78], .ioErr .eof 9, .none, .none] := by
  decide +kernel

/-- a stream that ends on a boundary: `None` right away -/
example : ((Rdr.new .mem none ((sample.take 22).map Ev.byte)).calls (List.replicate 4 .next)).2 =
    [.decErr (.discarded 2), .ok [0x12, 0x34, 0x56, 0x78], .none, .none] := by
  decide +kernel

/-- `ArrayBuf<31>` (`= |sample|`) behaves like `Vec<u8>`; `ArrayBuf<3>` does not (the hypothesis
of `buffer_independent` is needed) -/
example : (Dec.pushAll (Dec.fresh (some 31)) sample).2 = (Dec.pushAll (Dec.fresh none) sample).2 := by
  decide +kernel

example : (Dec.pushAll (Dec.fresh (some 3)) sample).2 ≠ (Dec.pushAll (Dec.fresh none) sample).2 := by
  decide +kernel

end Sml.C15
