import Sml.Lemmas.DecWindow
import Sml.Lemmas.DecFront
/-
  Property C02.

  "Whenever any decoder front-end reports a payload m after consuming some byte of an arbitrary
  stream, the bytes consumed so far end with exactly the canonical Transport-v1 frame of m: start
  sequence, m with escape sequences doubled, 0-3 zero bytes up to 4-byte alignment, end sequence
  carrying that pad count, and the matching CRC-16/X.25.  Hence no truncated, misaligned, wrongly
  padded, wrongly escaped or checksum-failing byte sequence ever yields data."

  * model : `Dec.push` (`Decoder::push_byte`), histories `Dec.run`, streams `Dec.pushAll`,
            `decodeAll` (`decode`), the reader `Rdr` (Sml/Model/Decode.lean, Frontends.lean)
  * spec  : `Spec.frame` (Sml/Spec/Frame.lean) -- written from the protocol description

  All theorems hold for every buffer capacity (`cap = none` is `Vec<u8>`, `some n` is
  `ArrayBuf<n>`) and for every stream / history, without any length bound.
-/
namespace Sml.C02

open Spec (frame)

/-- the bytes pushed since the latest `finalize` / `reset` operation, since the latest
replacement of the decoder by `Decoder::new()` / `Decoder::from_buf(buf)` (`Op.new`,
`Op.fromBuf stale`), or since the beginning.  The stale contents of a buffer handed to `from_buf`
are not part of it.  (The fold of `Dec.consStep`, `consumed_eq`; the statements of C02 and C05 are
self-contained with this definition.) -/
def consumed (ops : List Op) : List UInt8 :=
  ops.foldl (fun acc op => match op with | .push b => acc ++ [b] | _ => []) []

theorem consumed_eq (ops : List Op) : consumed ops = ops.foldl Dec.consStep [] := by
  unfold consumed
  congr 1

/-- Histories of `push_byte` / `finalize` / `reset` / `new` / `from_buf` on a decoder of any
capacity: if the `i`-th operation reports the payload `m`, the bytes pushed since the latest
`finalize` / `reset` / `new` / `from_buf` end with exactly `frame m`.  (So neither bytes given to
a dropped decoder nor stale buffer contents ever contribute to a payload.) -/
theorem sound (cap : Option Nat) (ops : List Op) (i : Nat) (m : List UInt8)
    (h : (Dec.run (Dec.fresh cap) ops).2[i]? = some (OpOut.out (Out.msg m))) :
    ∃ pre, consumed (ops.take (i + 1)) = pre ++ frame m := by
  obtain ⟨op, h1, h2⟩ := Dec.run_getElem? ops _ i _ h
  obtain ⟨w, _, hw, hc, _⟩ :=
    Dec.winv_run (ops.take i) (Dec.winv_fresh cap) (List.suffix_refl []) (b := 0) (i := 0) rfl
  obtain ⟨pre, hp⟩ := Dec.step_msg hw hc h2.symm
  exact ⟨pre, by rw [consumed_eq, h1, List.foldl_append, hp]; rfl⟩

/-- Plain streams: if the byte at index `i` makes the decoder report `m`, then the stream up to
and including that byte ends with exactly `frame m`. -/
theorem sound_stream (cap : Option Nat) (s : List UInt8) (i : Nat) (m : List UInt8)
    (h : (Dec.pushAll (Dec.fresh cap) s).2[i]? = some (Out.msg m)) :
    ∃ pre, s.take (i + 1) = pre ++ frame m := by
  obtain ⟨pre, w, hs, _, hr, _⟩ := Dec.wrep_at cap s i _ h
  exact ⟨pre, by rw [hs, show w = frame m from hr]⟩

/-- the items of the list / iterator front-ends are the answers of `push_byte` (DecFront
`decodeAll_go_eq`, `DecIter.take_eq`), and `finalize` never adds a payload -/
theorem ok_mem_allItems {cap : Option Nat} {s m : List UInt8}
    (h : Item.ok m ∈ (Dec.fresh cap).allItems s) : ∃ pre post, s = pre ++ frame m ++ post := by
  rcases List.mem_append.1 h with h | h
  · obtain ⟨o, ho, hox⟩ := List.mem_filterMap.1 h
    obtain rfl := toItem?_eq_ok hox
    obtain ⟨i, hi⟩ := List.getElem?_of_mem ho
    obtain ⟨pre, hp⟩ := sound_stream cap s i m hi
    exact ⟨pre, s.drop (i + 1), by rw [← hp, List.take_append_drop]⟩
  · unfold C15.finalItem at h
    split at h <;> simp at h

/-- `decode(bytes)`: every decoded payload comes from a canonical frame that occurs in the input
as a contiguous block. -/
theorem sound_decodeAll (s : List UInt8) (m : List UInt8) (h : Item.ok m ∈ decodeAll s) :
    ∃ pre post, s = pre ++ frame m ++ post := by
  rw [show decodeAll s = decodeAll.go (Dec.fresh none) s from rfl,
    decodeAll_go_eq s (Dec.inv_fresh none)] at h
  exact ok_mem_allItems h

/-- `decode_streaming(bytes)` / `DecodeIterator` with any buffer: every payload returned by any of
the first `n` calls of `next` comes from a canonical frame that occurs in the input. -/
theorem sound_iter (cap : Option Nat) (s : List UInt8) (n i : Nat) (m : List UInt8)
    (h : ((DecIter.new cap s).take n)[i]? = some (some (Item.ok m))) :
    ∃ pre post, s = pre ++ frame m ++ post := by
  have hi : i < n := by
    have := (List.getElem?_eq_some_iff.1 h).1
    rwa [DecIter.take_new, padTo_length] at this
  rw [DecIter.take_new, getElem?_padTo _ _ _ _ hi, List.getElem?_map] at h
  cases hx : ((Dec.fresh cap).allItems s)[i]? with
  | none => rw [hx] at h; cases h
  | some x =>
    rw [hx] at h
    cases h
    exact ok_mem_allItems (List.mem_of_getElem? hx)

/-- the bytes an event list delivers; all other events are faults that deliver nothing (the same
function as the recursive `RF.bytesOf` of Lemmas/RdrFaults.lean, which the C11 lemmas use) -/
def evBytes (evs : List Ev) : List UInt8 :=
  evs.filterMap (fun e => match e with | .byte b => some b | _ => none)

/-- noise, a frame, noise: the payload is reported at the last byte of the frame (index 22) -/
example :
    (Dec.pushAll (Dec.fresh none)
      ([0xaa, 0x1b, 0x01] ++ frame [0x12, 0x34, 0x56, 0x78] ++ [0x1b, 0x1b, 0xcc])).2[22]? =
      some (Out.msg [0x12, 0x34, 0x56, 0x78]) := by
  decide +kernel

/-- a payload that needs a literal escape, padding, and the re-alignment path -/
example :
    (Dec.pushAll (Dec.fresh (some 16))
      (frame [0x1b, 0x1b, 0x1b, 0x1b, 0x1b, 0x00, 0x1b])).2[(frame [0x1b, 0x1b, 0x1b, 0x1b, 0x1b,
        0x00, 0x1b]).length - 1]? = some (Out.msg [0x1b, 0x1b, 0x1b, 0x1b, 0x1b, 0x00, 0x1b]) := by
  decide +kernel

/-- a history with a `from_buf` whose buffer holds stale bytes, in the middle of a frame: the
payload reported later is that of the frame pushed after it -/
example :
    (Dec.run (Dec.fresh (some 4))
      (((frame [0xaa, 0xbb]).take 10).map Op.push ++ [Op.fromBuf [1, 2, 3, 4]] ++
        (frame [0x12, 0x34, 0x56, 0x78]).map Op.push)).2[30]? =
      some (OpOut.out (Out.msg [0x12, 0x34, 0x56, 0x78])) := by
  decide +kernel

example : consumed ([Op.push 1, Op.push 2, Op.fromBuf [7, 7], Op.push 3, Op.new, Op.push 4,
    Op.push 5]) = [4, 5] := by decide

example : (Item.ok [0x12, 0x34, 0x56, 0x78]) ∈
    decodeAll ([0xaa] ++ frame [0x12, 0x34, 0x56, 0x78] ++ [0xbb]) := by
  decide +kernel

example :
    ((DecIter.new (some 8) ([0xaa] ++ frame [0x12, 0x34, 0x56, 0x78] ++ [0xbb])).take 3) =
      [some (Item.err (.discarded 1)), some (Item.ok [0x12, 0x34, 0x56, 0x78]),
        some (Item.err (.discarded 1))] := by
  decide +kernel

/-- a reader over `std::io::Read` with faults between and inside the frame -/
example :
    ((Rdr.new .io none
      ([Ev.byte 0xaa, Ev.wouldBlock] ++ (frame [0x12, 0x34]).map Ev.byte ++ [Ev.other])).calls
        [.read, .read, .read, .next]).2 =
      [RItem.ioErr .wouldBlock 0, RItem.decErr (.discarded 1), RItem.ok [0x12, 0x34],
        RItem.ioErr .other 0] := by
  decide +kernel

/-- a mid-stream end of input between noise and a frame, and one after it -/
example :
    ((Rdr.new .io none
      ([Ev.byte 0xaa, Ev.eof] ++ (frame [0x12, 0x34]).map Ev.byte ++ [Ev.eof, Ev.byte 0xbb])).calls
        [.next, .next, .next, .read, .next]).2 =
      [RItem.ioErr .eof 1, RItem.ok [0x12, 0x34], RItem.none, RItem.ioErr .eof 1, RItem.none] := by
  decide +kernel

end Sml.C02
