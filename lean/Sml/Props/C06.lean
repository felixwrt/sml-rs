import Sml.Lemmas.GhostBound
import Sml.Props.C13
/-
  Property C06.

  "For every byte string, the allocating parser and the streaming parser return a value or an
   error: they never panic, abort, overflow a counter or fail to terminate.  The heap memory
   requested by the allocating parser is bounded by a constant multiple of the input length -
   never by a length field declared inside the input - and the streaming parser allocates nothing."

  * Panics / overflows: every Rust panic site of the two parsers is an explicit `PErr.panic`
    outcome of the model (num.rs:18, num.rs:31, tlf.rs:82, complete.rs:83 = streaming.rs:51,
    streaming.rs:44, and the model-only "fuel exhausted").  `no_panic_complete` and
    `no_panic_streaming` show that none is reachable, for every input.
  * Termination: the model functions are total; the only place where the model bounds a Rust
    `while` loop by fuel is `parseMessages`, and `no_panic_complete` includes that the fuel
    `x.length` never runs out.  The streaming iterator ends after at most `|x| + 1` items (C13).
  * Allocation: `parseFileG` (Model/AllocGhost.lean) records every `Vec::with_capacity` request of
    the allocating parser and the number of `messages.push` calls.  `ghost_faithful`,
    `alloc_bound`, `each_request_le`, `pushes_bound`.
  * The streaming parser model has no container (its state is two slices and a counter), so
    "allocates nothing" is not a statement about the model; it is measured on the implementation
    by the test harness with a counting allocator.
-/
namespace Sml.C06
open Sml SParser

/-- the allocating parser never reaches a panic site; in particular the fuel `x.length` of the
    message loop never runs out -/
theorem no_panic_complete (x : Bytes) (s : String) : parseFile x ≠ .error (.panic s) :=
  fun h => parseMessages_no_panic _ _ (Nat.le_refl _) s (parseFile_error.1 h)

/-- no call of the streaming iterator reaches a panic site (incl. the countdown overflow
    streaming.rs:44 and the subtraction streaming.rs:51) -/
theorem no_panic_streaming (x : Bytes) (k : Nat) :
    ∀ it ∈ ((SParser.new x).take k).2, ∀ s, it ≠ some (.err (.panic s)) :=
  take_no_panic k (new x) (Or.inl rfl)

/-- the list loop performs exactly the declared number of iterations when it succeeds, and each
    iteration consumes at least one byte: a successful loop is bounded by the input, whatever
    count was declared -/
theorem entries_bound (n : Nat) (input : Bytes) (es : List ListEntry) (rest : Bytes) :
    parseEntries n input = .ok (es, rest) → es.length = n ∧ rest.length + n ≤ input.length :=
  fun h => ⟨post_parseEntries n input es rest h, by have := ((adv_parseEntries8 n).ok h).length_le; omega⟩

/-- a declared count above the number of remaining bytes always fails (it cannot make the loop
    run, or allocate, beyond the input) -/
theorem entries_overlong (n : Nat) (input : Bytes) (h : input.length < n) :
    ∃ e, parseEntries n input = .error e ∧ ∀ s, e ≠ .panic s := by
  cases hp : parseEntries n input with
  | error e => exact ⟨e, rfl, (adv_parseEntries8 n).error_ne_panic hp⟩
  | ok v =>
    obtain ⟨es, rest⟩ := v
    have := (entries_bound n input es rest hp).2
    omega

/-- the streaming countdown: whatever count a list response announces, the iterator produces at
    most `|x|` list-entry events (at most `|x|` events of any kind) -/
theorem streaming_entries_bound (x : Bytes) (k : Nat) :
    (((SParser.new x).take k).2.filter fun o =>
      match o with
      | some (.ev (.listEntry _)) => true
      | _ => false).length ≤ x.length := by
  obtain ⟨items, _, h2, _, h4⟩ := C13.fused_items x
  rw [← List.countP_eq_length_filter] at h2 ⊢
  rw [h4 k, List.countP_append, List.countP_replicate, List.countP_map]
  simp only [Bool.false_eq_true, if_false, Nat.add_zero]
  refine Nat.le_trans (Nat.le_trans (List.countP_mono_left fun a _ h => ?_)
    (List.take_sublist k items).countP_le) h2
  cases a with
  | ev e => rfl
  | err e => simp at h

/-- the instrumented parser IS the parser -/
theorem ghost_faithful (x : Bytes) : (parseFileG x).1 = parseFile x := by
  simp only [parseFileG, parseFile, (parseMessagesG_ok _ _).1]
  cases parseMessages x.length x <;> rfl

/-- all `Vec::with_capacity` requests of one `parse` call together ask for at most `|x|` list
    entries (each request is at most the input remaining at that point; a successful list consumed
    at least as many bytes as it requested; a failing list is the last thing parsed) -/
theorem alloc_bound_tight (x : Bytes) : (parseFileG x).2.caps.sum ≤ x.length :=
  (parseMessagesG_ok x.length x).2.1

theorem alloc_bound (x : Bytes) : (parseFileG x).2.caps.sum ≤ 2 * x.length := by
  have := alloc_bound_tight x
  omega

/-- no single request exceeds the input length - never the declared length alone -/
theorem each_request_le (x : Bytes) : ∀ r ∈ (parseFileG x).2.caps, r ≤ x.length :=
  fun r hr => Nat.le_trans (mem_le_sum _ r hr) (alloc_bound_tight x)

/-- every `messages.push` follows a message of at least 7 bytes -/
theorem pushes_bound (x : Bytes) : 7 * (parseFileG x).2.pushes ≤ x.length :=
  (parseMessagesG_ok x.length x).2.2

/-- the request of one list is the declared count capped by the remaining input -/
theorem request_def (declared : Nat) (input : Bytes) :
    (parseListWithG input ⟨.listOf, declared⟩).2 = [min declared input.length] := rfl

/-- message header and list-response fields up to the value list -/
def glrHead : Bytes :=
  [0x76, 0x05, 0x01, 0x02, 0x03, 0x04, 0x62, 0x00, 0x62, 0x00, 0x72, 0x63, 0x07, 0x01,
   0x77, 0x01, 0x02, 0xaa, 0x01, 0x01]

/-- a list response declaring 2^32 - 1 values (the witness of D6, the 378 GB allocation request),
    followed by three more bytes -/
def hugeList : Bytes := glrHead ++ [0xff, 0x8f, 0x8f, 0x8f, 0x8f, 0x8f, 0x8f, 0x0f, 0x77, 0x02, 0xbb]

/-- a complete, valid list response with two values -/
def goodList : Bytes :=
  glrHead ++ [0x72,
    0x77, 0x02, 0xbb, 0x01, 0x01, 0x01, 0x01, 0x62, 0x05, 0x01,
    0x77, 0x02, 0xbc, 0x01, 0x01, 0x01, 0x01, 0x62, 0x06, 0x01,
    0x01, 0x01, 0x63, 0x44, 0x67, 0x00]

example : parseTlf [0xff, 0x8f, 0x8f, 0x8f, 0x8f, 0x8f, 0x8f, 0x0f, 0x77, 0x02, 0xbb] =
    .ok (⟨.listOf, 4294967295⟩, [0x77, 0x02, 0xbb]) := rfl
/-- error kind of a result (`Except` has no `DecidableEq`) -/
def errOf {α : Type} : Except PErr α → Option PErr
  | .error e => some e
  | .ok _ => none

-- declared 4294967295, requested 3 (= remaining input), result: an error, not a panic
example : errOf (parseFileG hugeList).1 = some .unexpectedEOF ∧
    (parseFileG hugeList).2 = ⟨[3], 0⟩ := by decide +kernel
example : errOf (parseFile hugeList) = some .unexpectedEOF := by decide +kernel
example : C13.kinds ((SParser.new hugeList).take 3).2 =
    [some none, some (some .unexpectedEOF), none] := by decide +kernel
-- successful lists request exactly their number of entries; a failing list is the last request
example : (parseFileG (goodList ++ goodList)).2 = ⟨[2, 2], 2⟩ := by decide +kernel
example : errOf (parseFileG (goodList ++ hugeList)).1 = some .unexpectedEOF ∧
    (parseFileG (goodList ++ hugeList)).2 = ⟨[2, 3], 1⟩ := by decide +kernel
example : (parseFile (goodList ++ goodList)).toOption.map (·.messages.length) = some 2 := by
  decide +kernel

end Sml.C06
