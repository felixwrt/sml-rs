import Sml.Lemmas.DecResync
import Sml.Props.C01
/-
  Property C16.

  "A frame whose payload has L bytes decodes successfully in a buffer of capacity exactly L:
  escape bytes, padding and temporarily withheld zeros never need extra room.  With a capacity
  below L the decoder reports out-of-memory for that frame, never a shortened or altered payload,
  and is immediately ready for the next frame."

  * model : `Dec.fresh (some N)` = `Decoder<ArrayBuf<N>>`, `Dec.pushAll`   (Sml/Model)
  * spec  : `Spec.frame`
  * "never a shortened or altered payload": the first result of the frame that is not `Ok(None)`
    is `Err(OutOfMemory)` (so no `Ok(Some(..))` precedes it).
  * "immediately ready": the state right after the error is that of a new decoder (`look 0 0`,
    `raw = 0`, nothing withheld, empty buffer, same capacity) up to the `crc` field, which is dead
    in that state (it is overwritten when the next start sequence completes); `ready_after_oom`
    shows that a frame fed right after the error round-trips.

  All theorems hold for payloads of every length and every capacity.
-/
namespace Sml.C16

open Spec (frame)

/-- Capacity exactly `|p|` suffices. -/
theorem exact_fit (p : List UInt8) :
    (Dec.pushAll (Dec.fresh (some p.length)) (frame p)).2 =
      List.replicate ((frame p).length - 1) Out.none ++ [Out.msg p] :=
  C01.roundtrip_push p (some p.length) (Nat.le_refl _)

/-- ... for every front-end (see C01): e.g. the iterator and the reader. -/
theorem exact_fit_iter (p : List UInt8) (k : Nat) :
    (DecIter.new (some p.length) (frame p)).take (k + 1) =
      some (Item.ok p) :: List.replicate k none :=
  C01.roundtrip_iter p (some p.length) (Nat.le_refl _) k

/-- With a capacity below `|p|`: within the frame, after `i` results `Ok(None)`, the decoder
reports `OutOfMemory`; right after that it is in the initial state (up to the dead `crc` field). -/
theorem too_small (p : List UInt8) (N : Nat) (h : N < p.length) :
    ∃ i, i < (frame p).length ∧
      (Dec.pushAll (Dec.fresh (some N)) ((frame p).take (i + 1))).2 =
        List.replicate i Out.none ++ [Out.err DecErr.oom] ∧
      let d := (Dec.pushAll (Dec.fresh (some N)) ((frame p).take (i + 1))).1
      d.st = .look 0 0 ∧ d.raw = 0 ∧ d.zc = 0 ∧ d.buf.rdata = [] ∧ d.buf.cap = some N := by
  have hrun := (Dec.frame_delivered (Dec.fresh none) p rfl rfl rfl trivial).pushAll
  rcases Dec.pushAll_rel (some N) (frame p) (Dec.fresh none) rfl (Nat.zero_le N) with
    ⟨_, g2⟩ | ⟨i, hi, g1, ⟨h2, h3, h4, h5⟩, h6⟩
  · -- the unbounded decoder ends up holding `p`, which does not fit
    exfalso
    rw [hrun] at g2
    simp only [Dec.WFc, Dec.delivered, List.length_reverse] at g2
    exact absurd g2 (Nat.not_le.2 h)
  · refine ⟨i, hi, ?_, h2, h3, h4, h5, h6⟩
    have e : Dec.fresh (some N) = (Dec.fresh none).withCapR (some N) := rfl
    rw [e, g1, Dec.pushAll_take, hrun]
    congr 1
    rw [List.take_append_of_le_length (by rw [List.length_replicate]; omega), List.take_replicate,
      Nat.min_eq_left (by omega)]

/-- "Immediately ready for the next frame": a frame (whose payload fits) fed right after the
out-of-memory error round-trips as on a new decoder. -/
theorem ready_after_oom (p : List UInt8) (N : Nat) (h : N < p.length) :
    ∃ i, i < (frame p).length ∧
      (Dec.pushAll (Dec.fresh (some N)) ((frame p).take (i + 1))).2 =
        List.replicate i Out.none ++ [Out.err DecErr.oom] ∧
      ∀ q : List UInt8, q.length ≤ N →
        (Dec.pushAll (Dec.pushAll (Dec.fresh (some N)) ((frame p).take (i + 1))).1 (frame q)).2 =
          List.replicate ((frame q).length - 1) Out.none ++ [Out.msg q] := by
  obtain ⟨i, hi, h1, h2, _, h4, h5, h6⟩ := too_small p N h
  refine ⟨i, hi, h1, fun q hq => ?_⟩
  rw [(Dec.frame_delivered _ q h2 h4 h5 (by rw [h6]; exact hq)).pushAll]

/-- 8192: `type DefaultBuffer = ArrayBuf<{ 8 * 1024 }>` (src/lib.rs) -/
theorem default_buf_ok (p : List UInt8) (h : p.length ≤ 8192) :
    (Dec.pushAll (Dec.fresh (some 8192)) (frame p)).2 =
      List.replicate ((frame p).length - 1) Out.none ++ [Out.msg p] :=
  C01.roundtrip_push p (some 8192) h

theorem default_buf_oom (p : List UInt8) (h : 8192 < p.length) :
    ∃ i, i < (frame p).length ∧
      (Dec.pushAll (Dec.fresh (some 8192)) ((frame p).take (i + 1))).2 =
        List.replicate i Out.none ++ [Out.err DecErr.oom] ∧
      let d := (Dec.pushAll (Dec.fresh (some 8192)) ((frame p).take (i + 1))).1
      d.st = .look 0 0 ∧ d.raw = 0 ∧ d.zc = 0 ∧ d.buf.rdata = [] ∧ d.buf.cap = some 8192 :=
  too_small p 8192 h

/-- five zeros + three pad zeros: eight zeros pass through a 5-byte buffer -/
example : (Dec.pushAll (Dec.fresh (some 5)) (frame [0, 0, 0, 0, 0])).2 =
    List.replicate 23 Out.none ++ [Out.msg [0, 0, 0, 0, 0]] := by decide +kernel

/-- one byte less: zeros are withheld, so the error comes only when the withheld zeros are flushed
by the end sequence, i.e. at the last byte of the frame -/
example : (Dec.pushAll (Dec.fresh (some 4)) (frame [0, 0, 0, 0, 0])).2 =
    List.replicate 23 Out.none ++ [Out.err DecErr.oom] := by decide +kernel

/-- escapes need no room: capacity 4 for four 0x1b (eight on the wire) -/
example : (Dec.pushAll (Dec.fresh (some 4)) (frame [0x1b, 0x1b, 0x1b, 0x1b])).2 =
    List.replicate 23 Out.none ++ [Out.msg [0x1b, 0x1b, 0x1b, 0x1b]] := by decide +kernel

/-- capacity 3: error in the middle of the frame (at the byte completing the escape), the rest of
the frame is then noise for the reset decoder -/
example : (Dec.pushAll (Dec.fresh (some 3)) ((frame [0x1b, 0x1b, 0x1b, 0x1b]).take 16)).2 =
    List.replicate 15 Out.none ++ [Out.err DecErr.oom] := by decide +kernel

example : (Dec.pushAll (Dec.fresh (some 3)) ((frame [0x1b, 0x1b, 0x1b, 0x1b]).take 16)).1 =
    { raw := 0, crc := (Dec.pushAll (Dec.fresh (some 3)) ((frame [0x1b, 0x1b, 0x1b, 0x1b]).take 16)).1.crc,
      st := .look 0 0, zc := 0, buf := ⟨some 3, []⟩ } := by decide +kernel

/-- a plain payload: error at the byte that does not fit -/
example : (Dec.pushAll (Dec.fresh (some 2)) ((frame [1, 2, 3]).take 11)).2 =
    List.replicate 10 Out.none ++ [Out.err DecErr.oom] := by decide +kernel

/-- after the error, a fitting frame fed right away round-trips -/
example : (Dec.pushAll (Dec.pushAll (Dec.fresh (some 2)) ((frame [1, 2, 3]).take 11)).1 (frame [7, 8])).2 =
    List.replicate 19 Out.none ++ [Out.msg [7, 8]] := by decide +kernel

end Sml.C16
