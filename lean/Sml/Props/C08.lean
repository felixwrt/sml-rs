import Sml.Lemmas.DecResync
import Sml.Props.C14
/-
  Property C08.

  "If a decoder that is between transmissions receives arbitrary bytes not containing the start
  sequence and then a valid frame, it reports the noise length (if any) as discarded bytes and then
  delivers the frame's payload - also when the noise ends in 0x1b bytes or in a partial start
  sequence.  Likewise, a transmission cut off at a point where no escape sequence or 0x1b run is in
  progress, followed by a complete frame, yields a discarded-bytes report for the cut-off part and
  then the complete frame's payload."

  * model : `Dec.push` / `Dec.pushAll` / `Dec.run`   (Sml/Model/Decode.lean, Sml/Model/Frontends.lean)
            in particular `Dec.pushLook` (start-sequence matcher, decode.rs:180-210) and the
            `01010101` branch of `Dec.pushEscComplete` (decode.rs:265-277)
  * spec  : `Spec.frame`                              (Sml/Spec/Frame.lean)
  * method (Sml/Lemmas/DecLook.lean, DecResync.lean): the matcher is the automaton `Resync.delta`
    on the number of matched bytes; `Resync.Tracks` is the KMP invariant "the state is the length of the longest
    prefix of the start sequence that is a suffix of the input so far", so the matcher completes
    exactly when the input ends with the start sequence (`Resync.hit_iff`), with
    `disc + init = number of bytes consumed`; the window invariant (`Dec.WInv`, DecWindow.lean) carries
    it, so input that completes no start sequence is silent (`Dec.winv_startFree`).  After the start
    sequence the decoder is as a new one fed that start sequence (`Dec.sync_prefix`), so the frame
    is the round trip `Dec.frame_delivered` (C01).  Idle histories reduce to the new decoder by C14.

  The numbers in the answer lists: 8 = `|START|`; the report about the noise comes with the LAST byte
  of the start sequence, so `|g| + 7` silent answers precede it; a frame's payload comes with its last
  byte, so after the report `|frame m| - 9` = `|frame m| - |START| - 1` silent answers precede it.
  A cut transmission of `n` bytes is reported with the last byte of the NEXT start sequence:
  `n - 8 + 7` silent answers lie between the two reports (the rest of the cut part, seven bytes of
  the start sequence).  The lists of CutFrame, OomThenNextFrame, NoTruncation and C10 follow this.

  All theorems hold for every noise string / payload / history / capacity; the only capacity
  hypothesis is that the payloads fit the decoder's buffer (`fitsCap`, vacuous for `Vec`).
-/
namespace Sml.C08

open Spec (frame stuff ctr)
open C07 (fitsCap)

/-- One answer per byte: `Ok(None)` everywhere, except `Err(DiscardedBytes(|g|))` at the last byte
of the start sequence (if there was noise) and `Ok(Some(m))` at the last byte of the frame.
For `g = []` this is C01. -/
theorem noise_then_frame (g m : List UInt8) (cap : Option Nat) (hg : StartFree g)
    (hm : fitsCap cap m.length) :
    (Dec.pushAll (Dec.fresh cap) (g ++ frame m)).2 =
      List.replicate (g.length + 7) Out.none ++
        [if g = [] then Out.none else Out.err (.discarded g.length)] ++
        List.replicate ((frame m).length - 9) Out.none ++ [Out.msg m] :=
  (Resync.noise_frame (Dec.winv_fresh cap) (Dec.inv_fresh cap) g m hg hm).1

/-- afterwards the decoder is `Done` and holds exactly the payload -/
theorem noise_then_frame_state (g m : List UInt8) (cap : Option Nat) (hg : StartFree g)
    (hm : fitsCap cap m.length) :
    (Dec.pushAll (Dec.fresh cap) (g ++ frame m)).1.st = .done ∧
      (Dec.pushAll (Dec.fresh cap) (g ++ frame m)).1.buf.data = m :=
  (Resync.noise_frame (Dec.winv_fresh cap) (Dec.inv_fresh cap) g m hg hm).2

/-- The decoder is between transmissions: it is new, or its last answer was a delivered
transmission, an `InvalidMessage` / `InvalidEsc` / `OutOfMemory` error, the answer of `finalize`
or `reset`, or it has just been replaced by `Decoder::new()` / `Decoder::from_buf(buf)`
(`C14.Boundary`). -/
def Idle (cap : Option Nat) (ops : List Op) : Prop :=
  ops = [] ∨ ∃ o, (Dec.run (Dec.fresh cap) ops).2.getLast? = some o ∧ C14.Boundary o

/-- The same answers from a decoder with any idle history `ops` of `push_byte` / `finalize` /
`reset` / `new` / `from_buf` calls. -/
theorem noise_then_frame_idle (cap : Option Nat) (ops : List Op) (h : Idle cap ops)
    (g m : List UInt8) (hg : StartFree g) (hm : fitsCap cap m.length) :
    (Dec.pushAll (Dec.run (Dec.fresh cap) ops).1 (g ++ frame m)).2 =
      List.replicate (g.length + 7) Out.none ++
        [if g = [] then Out.none else Out.err (.discarded g.length)] ++
        List.replicate ((frame m).length - 9) Out.none ++ [Out.msg m] := by
  rw [Resync.pushAll_after_idle cap ops h]
  exact noise_then_frame g m cap hg hm

/-- the control state reached inside a frame does not depend on the capacity as long as the
payload fits -/
theorem cut_state_cap (cap : Option Nat) (m : List UInt8) (k : Nat) (hroom : fitsCap cap m.length) :
    (Dec.pushAll (Dec.fresh cap) ((frame m).take k)).1.st =
      (Dec.pushAll (Dec.fresh none) ((frame m).take k)).1.st := by
  rw [Resync.pushAll_of_noOom cap _ (noOom_of_fits cap m k hroom)]; rfl

/-- `a` = the first `k` bytes of the frame of `m1`, cut at a point where no escape sequence and no
run of 0x1b is in progress: the decoder is in state `Normal` after `a` (the capacity does not
matter for that, see `cut_state_cap`).  Then the frame of `m2` follows.  One answer per byte:
`Ok(None)` everywhere, except `Err(DiscardedBytes(|a|))` at the last byte of the start sequence and
`Ok(Some(m2))` at the last byte.  (`hroom`: the cut-off part itself does not run out of memory.) -/
theorem cut_then_frame (cap : Option Nat) (m1 m2 : List UInt8) (k : Nat)
    (hstate : (Dec.pushAll (Dec.fresh none) ((frame m1).take k)).1.st = .normal)
    (hroom : fitsCap cap m1.length) (hm : fitsCap cap m2.length) :
    (Dec.pushAll (Dec.fresh cap) ((frame m1).take k ++ frame m2)).2 =
      List.replicate (((frame m1).take k).length + 7) Out.none ++
        [Out.err (.discarded ((frame m1).take k).length)] ++
        List.replicate ((frame m2).length - 9) Out.none ++ [Out.msg m2] := by
  obtain ⟨c1, c2, c3, c4, _⟩ := Resync.cut_facts cap m1 k hstate (noOom_of_fits cap m1 k hroom)
  have h := (Resync.resync_after _ _ _ c1 c2 (by rw [c4]; exact hm)).1
  rwa [c3] at h

/-- Which cut points inside the payload qualify: after the start sequence and the stuffed payload
bytes `p` the decoder is in state `Normal` iff `p` does not end in a pending run of 0x1b
(`ctr 0 p = 0`: the number of trailing 0x1b of `p` is a multiple of four). -/
theorem cut_payload_state (cap : Option Nat) (p : List UInt8) (hp : fitsCap cap p.length) :
    (Dec.pushAll (Dec.fresh cap) (START ++ stuff p)).1.st =
      if ctr 0 p = 0 then .normal else .escChars (ctr 0 p) := by
  obtain ⟨d1, data1, hrun, hs⟩ := Dec.start_stuff cap p hp
  rw [hrun]
  exact hs.st

/-- The explicit form for cuts inside the payload: start sequence, the stuffed bytes of any `p`
with no pending run of 0x1b, then the frame of `m`. -/
theorem cut_payload_then_frame (cap : Option Nat) (p m : List UInt8) (hc : ctr 0 p = 0)
    (hp : fitsCap cap p.length) (hm : fitsCap cap m.length) :
    (Dec.pushAll (Dec.fresh cap) ((START ++ stuff p) ++ frame m)).2 =
      List.replicate ((START ++ stuff p).length + 7) Out.none ++
        [Out.err (.discarded (START ++ stuff p).length)] ++
        List.replicate ((frame m).length - 9) Out.none ++ [Out.msg m] := by
  obtain ⟨d1, data1, hrun, hs⟩ := Dec.start_stuff cap p hp
  rw [hc, Dec.stOf_zero] at hs
  have h := (Resync.resync_after _ _ _ (by rw [hrun]) (by rw [hrun]; exact hs.st)
    (by rw [hrun, hs.cap]; exact hm)).1
  rwa [hrun, hs.raw] at h

/-- the witnesses of the fixed matcher defect are noise in the sense of `StartFree` ... -/
example : StartFree [0x1b] := by decide
example : StartFree [0x00, 0x1b, 0x1b] := by decide
example : StartFree [0x1b, 0x1b, 0x1b, 0x1b, 0x01] := by decide
example : StartFree [0x1b, 0x1b, 0x1b, 0x1b, 0x1b] := by decide
example : StartFree [0x1b, 0x1b, 0x1b, 0x1b, 0x01, 0x01, 0x01, 0x1b] := by decide
/-- ... the start sequence itself is not, nor is noise whose tail completes one early -/
example : ¬ StartFree START := by decide
example : ¬ StartFree [0x1b, 0x1b, 0x1b, 0x1b, 0x01, 0x01, 0x01, 0x01, 0x1b, 0x1b, 0x1b, 0x1b] := by
  decide

/-- ... and the conclusion on them: the frame is not lost -/
example : (Dec.pushAll (Dec.fresh none) ([0x1b] ++ frame [1, 2, 3, 4])).2 =
    List.replicate 8 Out.none ++ [Out.err (.discarded 1)] ++ List.replicate 11 Out.none ++
      [Out.msg [1, 2, 3, 4]] := by decide +kernel

example : (Dec.pushAll (Dec.fresh none) ([0x00, 0x1b, 0x1b] ++ frame [1, 2, 3, 4])).2 =
    List.replicate 10 Out.none ++ [Out.err (.discarded 3)] ++ List.replicate 11 Out.none ++
      [Out.msg [1, 2, 3, 4]] := by decide +kernel

example : (Dec.pushAll (Dec.fresh none) ([0x1b, 0x1b, 0x1b, 0x1b, 0x01] ++ frame [1, 2, 3, 4])).2 =
    List.replicate 12 Out.none ++ [Out.err (.discarded 5)] ++ List.replicate 11 Out.none ++
      [Out.msg [1, 2, 3, 4]] := by decide +kernel

example : (Dec.pushAll (Dec.fresh none) ([0x1b, 0x1b, 0x1b, 0x1b, 0x1b] ++ frame [1, 2, 3, 4])).2 =
    List.replicate 12 Out.none ++ [Out.err (.discarded 5)] ++ List.replicate 11 Out.none ++
      [Out.msg [1, 2, 3, 4]] := by decide +kernel

example : (Dec.pushAll (Dec.fresh (some 4))
      ([0x1b, 0x1b, 0x1b, 0x1b, 0x01, 0x01, 0x01, 0x1b] ++ frame [1, 2, 3, 4])).2 =
    List.replicate 15 Out.none ++ [Out.err (.discarded 8)] ++ List.replicate 11 Out.none ++
      [Out.msg [1, 2, 3, 4]] := by decide +kernel

/-- an idle history: a delivered frame, then an `InvalidEsc` error, then `reset` -/
example : Idle none ((frame [7]).map Op.push) :=
  Or.inr ⟨.out (.msg [7]), by decide +kernel, trivial⟩

example : Idle (some 8) (((frame [7]).map Op.push ++
    [0x1b, 0x1b, 0x1b, 0x1b, 0x01, 0x01, 0x01, 0x01, 0x1b, 0x1b, 0x1b, 0x1b, 0x02, 0, 0, 0].map Op.push)
      ++ [Op.push 0x55, Op.reset]) :=
  Or.inr ⟨.reset 1, by decide +kernel, trivial⟩

/-- an idle history that ends with a `from_buf` over a buffer full of stale bytes -/
example : Idle (some 8)
    (((frame [7]).take 11).map Op.push ++ [Op.fromBuf [1, 2, 3, 4, 5, 6, 7, 8]]) :=
  Or.inr ⟨.fromBuf, by decide +kernel, trivial⟩

/-- a cut-off frame: `1b1b1b1b 01010101 01 02 | ...` (decoder in state `Normal`), then a frame -/
example : (Dec.pushAll (Dec.fresh none) ((frame [1, 2, 3, 4, 5]).take 10)).1.st = .normal := by
  decide +kernel

example : (Dec.pushAll (Dec.fresh (some 5)) ((frame [1, 2, 3, 4, 5]).take 10 ++ frame [9])).2 =
    List.replicate 17 Out.none ++ [Out.err (.discarded 10)] ++ List.replicate 11 Out.none ++
      [Out.msg [9]] := by decide +kernel

/-- a cut inside the zero padding also qualifies -/
example : (Dec.pushAll (Dec.fresh none) ((frame [1, 2, 3, 4, 5]).take 15)).1.st = .normal := by
  decide +kernel

/-- `cut_payload_then_frame`: a payload prefix that ends with a complete group of four 0x1b -/
example : ctr 0 [0x05, 0x1b, 0x1b, 0x1b, 0x1b] = 0 := by decide

/-- the hypothesis on the cut point is needed: cut after one 0x1b of the payload, the start
sequence of the next frame is read as the invalid escape `1b1b1b1b 1b010101` and the frame is lost -/
example : (Dec.pushAll (Dec.fresh none) ((frame [1, 0x1b]).take 10)).1.st = .escChars 1 := by
  decide +kernel

example : (Dec.pushAll (Dec.fresh none) ((frame [1, 0x1b]).take 10 ++ frame [9])).2.filterMap
    Out.toItem? = [Item.err (.invalidEsc 0x1b 0x01 0x01 0x01)] := by decide +kernel

end Sml.C08
