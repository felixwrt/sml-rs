import Sml.Lemmas.DecWindow
/-
  Property C17.

  "Over any stream, the byte ranges covered by delivered frames, by discarded-bytes reports
  (including the final one from finalize, or the count attached to an I/O error) and by frames
  rejected with an error tile the input without gaps or overlaps: each discarded-bytes count equals
  exactly the number of bytes between the previous boundary and the start sequence, or end of
  input, that triggered it.  Counts stay exact for arbitrarily long noise."

  * model : `Dec.push` / `Dec.pushAll` / `Dec.finalize` / `Dec.reset` / `Dec.run`
            (Sml/Model/Decode.lean, Sml/Model/Frontends.lean)
  * spec  : the position-only walker `Spec.tileStep` / `Spec.tileFrom` / `Spec.tileEnd` /
            `Spec.tileReset` / `Spec.tileOps` (Sml/Spec/Tiling.lean).  The walker recomputes every
            count from the previous boundary `b` and the number `i` of bytes consumed:
              - `DiscardedBytes(n)` at the byte that completes a start sequence:
                `n = (i+1) - 8 - b`, `n > 0`, new boundary `(i+1) - 8` (start of that sequence);
              - payload delivered / `InvalidMessage` / `InvalidEsc` / `OutOfMemory`: the frame
                `b .. i+1` ends, new boundary `i+1`;
              - `finalize`: `None` iff `b = len`, else `DiscardedBytes(len - b)`;
              - `reset` (this is the count attached to an I/O error by `DecoderReader`, see
                `Rdr.onIoErr`): returns `len - b`;
              - `Decoder::new()` / `Decoder::from_buf(buf)` replacing the decoder in mid-history
                (`Op.new`, `Op.fromBuf stale`): the dropped decoder's pending bytes `b .. len` are
                lost without a report (there is nothing to check); new boundary `len`;
              - a panic is a violation.
  `frame_tile` adds (from the same invariant, `Lemmas/DecWindow.lean`) that the tile of a delivered
  payload `m` is exactly `Spec.frame m`.
  All counters are unbounded `Nat`s and the theorems quantify over all streams / histories and all
  buffer capacities, so the counts are exact for arbitrarily long noise.
-/
namespace Sml.C17

open Spec (tileStep tileFrom tileOk tileEnd tileReset tileOps pushCount)

/-- Plain streams: every per-byte report is the one the positions dictate (`tileFrom … = some b`,
`b` = the last boundary), and the final `finalize` reports exactly the `s.length - b` bytes after
that boundary (nothing if there are none). -/
theorem tiling (cap : Option Nat) (s : List UInt8) :
    ∃ b, tileFrom 0 0 (Dec.pushAll (Dec.fresh cap) s).2 = some b ∧
      tileEnd b s.length ((Dec.pushAll (Dec.fresh cap) s).1.finalize).2 = true := by
  obtain ⟨w, b, hw, _, e, hb⟩ := Dec.winv_pushAll s (Dec.winv_fresh cap) (b := 0) (i := 0) rfl
  exact ⟨b, e, hw.tileEnd (by rw [hb, Nat.zero_add])⟩

/-- the Boolean form of the first half -/
theorem tiling_ok (cap : Option Nat) (s : List UInt8) :
    tileOk 0 0 (Dec.pushAll (Dec.fresh cap) s).2 = true := by
  obtain ⟨b, e, _⟩ := tiling cap s
  simp [tileOk, e]

/-- Histories with `finalize` / `reset` calls (and replacements of the decoder by `new` /
`from_buf`) anywhere: every report of every operation (per-byte outputs, `finalize` results,
`reset` return values) is the one the positions dictate; after a `new` / `from_buf` the counts
restart at the current position (they never include bytes given to the dropped decoder, nor the
stale contents of the buffer handed to `from_buf`).
`tileOps` returns the last boundary and the number of bytes pushed. -/
theorem tiling_history (cap : Option Nat) (ops : List Op) :
    ∃ b, tileOps 0 0 (Dec.run (Dec.fresh cap) ops).2 = some (b, pushCount ops) := by
  obtain ⟨_, b, _, _, e, _⟩ :=
    Dec.winv_run ops (Dec.winv_fresh cap) (List.suffix_refl []) (b := 0) (i := 0) rfl
  rw [Nat.zero_add] at e
  exact ⟨b, e⟩

/-- After any history, with `b` the last boundary determined by the walker: a `reset` now returns
exactly the number of bytes pushed since `b` (0 right after a delivered frame, because the boundary
then is the current position), and a `finalize` now reports `DiscardedBytes` of exactly that number
(and nothing if it is 0). -/
theorem reset_count (cap : Option Nat) (ops : List Op) :
    ∃ b, tileOps 0 0 (Dec.run (Dec.fresh cap) ops).2 = some (b, pushCount ops) ∧
      b + ((Dec.run (Dec.fresh cap) ops).1.reset).2 = pushCount ops ∧
      tileEnd b (pushCount ops) ((Dec.run (Dec.fresh cap) ops).1.finalize).2 = true := by
  obtain ⟨w, b, hw, _, e, hb⟩ :=
    Dec.winv_run ops (Dec.winv_fresh cap) (List.suffix_refl []) (b := 0) (i := 0) rfl
  rw [Nat.zero_add] at e hb
  exact ⟨b, e, by rw [hw.reset_count]; exact hb, hw.tileEnd hb⟩

/-- The tile of a delivered frame is the frame: if the byte at index `i` delivers the payload `m`,
and `b` is the boundary the walker has reached on the earlier reports, then the canonical frame of
`m` (`Spec.frame m`, see C02) occupies exactly the positions `b .. i+1` of the stream. -/
theorem frame_tile (cap : Option Nat) (s : List UInt8) (i : Nat) (m : List UInt8)
    (h : (Dec.pushAll (Dec.fresh cap) s).2[i]? = some (Out.msg m)) :
    ∃ b, tileFrom 0 0 ((Dec.pushAll (Dec.fresh cap) s).2.take i) = some b ∧
      b + (Spec.frame m).length = i + 1 ∧ s.take (i + 1) = s.take b ++ Spec.frame m := by
  obtain ⟨pre, w, hs, hi, hr, hb⟩ := Dec.wrep_at cap s i _ h
  have hr : w = Spec.frame m := hr
  have hl : pre.length + (Spec.frame m).length = i + 1 := by
    have := congrArg List.length hs
    rw [List.length_take, List.length_append, hr] at this
    omega
  have hp : s.take pre.length = pre := by
    have := congrArg (List.take pre.length) hs
    rwa [List.take_left, List.take_take, Nat.min_eq_left (by omega)] at this
  exact ⟨pre.length, hb, hl, by rw [hp, hs, hr]⟩

/-- right after a delivered frame `reset` returns 0 and `finalize` reports nothing -/
theorem reset_after_frame (d : Dec) (h : d.st = .done) :
    (d.reset).2 = 0 ∧ (d.finalize).2 = none := by
  simp [Dec.reset, Dec.finalize, h]

/-- The count attached to an I/O error by `DecoderReader::read` (every error kind except
`WouldBlock`, which does not reset the decoder and carries 0) is the value returned by `reset`.
This theorem says no more than that.  That the value is the number of bytes since the previous
boundary is `reset_count`, applied to the history the reader's decoder has seen: after the events
`pre` it is the decoder after `pre.flatMap (Rdr.evOps kind)` (`Rdr.decAfter_eq_run`,
`Rdr.calls_prefix` in `Lemmas/Rdr.lean`). -/
theorem io_error_count (kind : SrcKind) (d : Dec) (evs : List Ev) (k : IoKind)
    (hk : k ≠ .wouldBlock) :
    Rdr.onIoErr kind d evs k =
      ({ kind := kind, dec := (d.reset).1, evs := evs }, RItem.ioErr k (d.reset).2) := by
  cases k <;> simp_all [Rdr.onIoErr]

/-- noise, a frame, noise, a frame rejected for its checksum, trailing bytes -/
def sample : List UInt8 :=
  [0xaa, 0xbb] ++ Spec.frame [0x12, 0x34, 0x56, 0x78] ++ [0x55, 0x1b, 0x66] ++
    [0x1b, 0x1b, 0x1b, 0x1b, 1, 1, 1, 1, 1, 2, 3, 4, 0x1b, 0x1b, 0x1b, 0x1b, 0x1a, 0, 0, 0] ++
    [0xcc, 0x1b]

example :
    (Dec.pushAll (Dec.fresh none) sample).2 =
      List.replicate 9 Out.none ++ [Out.err (.discarded 2)] ++
      List.replicate 11 Out.none ++ [Out.msg [0x12, 0x34, 0x56, 0x78]] ++
      List.replicate 10 Out.none ++ [Out.err (.discarded 3)] ++
      List.replicate 11 Out.none ++ [Out.err (.invalidMsg 0 30735 false 0 false)] ++
      [Out.none, Out.none] := by
  decide +kernel

example : ((Dec.pushAll (Dec.fresh none) sample).1.finalize).2 = some (.discarded 2) := by
  decide +kernel

/-- boundaries: 0 → 2 (frame starts) → 22 (frame ends) → 25 (next start) → 45 (rejected) -/
example : tileFrom 0 0 (Dec.pushAll (Dec.fresh none) sample).2 = some 45 := by
  decide +kernel

example : sample.length = 47 := by decide +kernel

/-- the walker does reject wrong counts -/
example : tileFrom 0 0 (List.replicate 9 Out.none ++ [Out.err (.discarded 3)]) = none := by
  decide

example : tileEnd 45 47 (some (.discarded 1)) = false := by decide

/-- a history with a `from_buf` (stale buffer contents) in the middle of a frame and a `new` in the
middle of noise: the counts reported afterwards restart at the construction -/
example : (Dec.run (Dec.fresh (some 8))
      ([0xaa, 0x1b, 0x1b, 0x1b, 0x1b, 1, 1, 1, 1, 5].map Op.push ++ [.fromBuf [9, 9, 9]] ++
        [0xbb, 0xcc].map Op.push ++ [.new] ++ [0xdd].map Op.push ++ [.reset, .fin])).2 =
    List.replicate 8 (.out .none) ++ [.out (.err (.discarded 1)), .out .none, .fromBuf,
      .out .none, .out .none, .new, .out .none, .reset 1, .fin none] := by
  decide +kernel

example : tileOps 0 0 (Dec.run (Dec.fresh (some 8))
      ([0xaa, 0x1b, 0x1b, 0x1b, 0x1b, 1, 1, 1, 1, 5].map Op.push ++ [.fromBuf [9, 9, 9]] ++
        [0xbb, 0xcc].map Op.push ++ [.new] ++ [0xdd].map Op.push ++ [.reset, .fin])).2 =
    some (13, 13) := by
  decide +kernel

end Sml.C17
