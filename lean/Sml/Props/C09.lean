import Sml.Lemmas.ParsersAgree
/-
  Property C09.

  "For every byte string, the events of the streaming parser up to its first error or end,
   reassembled, equal the file returned by the allocating parser; one reports an error exactly
   when the other does, and with the same error kind.  For every list response the streaming
   parser announces n values, then emits exactly n value events and one end event before the next
   message starts."

  * `events x` is the `for item in Parser::new(x)` iteration: all items up to and including the
    first error, or up to the first `None`.  By C13 the fuel `|x| + 2` is more than enough;
    `events_fuel` shows that any fuel above `|x|` gives the same list.
  * `Spec.reassemble`, `Spec.WellFormedEvents`, `Spec.WellFormedPrefix`, `Spec.Grammar` are the
    parser-independent event grammar (Sml/Spec/Events.lean).
  * `completedMessages fuel x` (Sml/Lemmas/ParsersAgree.lean) are the messages the allocating parser has
    parsed and checksum-verified before it stops.

  All statements hold for every input.
-/
namespace Sml.C09
open Sml SParser Spec

/-- the items of the streaming iteration up to the first error or `None` -/
def events (x : Bytes) : List SItem := (SParser.new x).collect (x.length + 2)

/-- `collect` with any larger fuel gives the same list -/
theorem events_fuel (x : Bytes) (fuel : Nat) (h : x.length + 1 ≤ fuel) :
    (SParser.new x).collect fuel = events x := by
  rw [events, collect_eq_run (new x) fuel h, collect_eq_run (new x) (x.length + 2)]
  exact Nat.le_succ _

theorem events_eq_run (x : Bytes) : events x = run (new x) :=
  collect_eq_run (new x) (x.length + 2) (Nat.le_succ _)

/-- both parsers succeed together, and then the events reassemble to the file -/
theorem agree_ok (x : Bytes) (F : File) :
    parseFile x = .ok F ↔
      ∃ evs : List ParseEvent,
        events x = evs.map SParser.SItem.ev ∧ reassemble evs = some F.messages := by
  rw [events_eq_run]
  rcases file_cases x with ⟨F', evs', hp, hr, hre⟩ | ⟨e, evs', extra, hp, hr, _, _⟩
  · rw [hp, hr]
    constructor
    · intro h
      cases h
      exact ⟨evs', rfl, hre true⟩
    · rintro ⟨evs, he, hrea⟩
      rw [← (List.map_inj_right fun _ _ => SItem.ev.inj).1 he] at hrea
      have := (hre true).symm.trans hrea
      simp only [Option.some.injEq] at this
      cases F; cases F'
      simp only at this
      rw [this]
  · rw [hp, hr]
    constructor
    · intro h; cases h
    · rintro ⟨evs, he, _⟩
      exact absurd he.symm (map_ev_ne_err _ _ _)

/-- both parsers fail together, with the same error -/
theorem agree_err (x : Bytes) (e : PErr) :
    parseFile x = .error e ↔
      ∃ evs : List ParseEvent, events x = evs.map SParser.SItem.ev ++ [SParser.SItem.err e] := by
  rw [events_eq_run]
  rcases file_cases x with ⟨F', evs', hp, hr, hre⟩ | ⟨e', evs', extra, hp, hr, _, _⟩
  · rw [hp, hr]
    constructor
    · intro h; cases h
    · rintro ⟨evs, he⟩
      exact absurd he (map_ev_ne_err _ _ _)
  · rw [hp, hr]
    constructor
    · intro h
      cases h
      exact ⟨evs', rfl⟩
    · rintro ⟨evs, he⟩
      rw [(map_ev_err_inj _ _ _ _ he).2]

/-- the events before the error / end form a well-formed prefix of the grammar
    `(MsgStart_nonlist | MsgStart_list n · Entry^n · End)*`; without an error they form a complete
    word of the grammar -/
theorem event_grammar (x : Bytes) :
    ∃ evs : List ParseEvent, (events x = evs.map SParser.SItem.ev ∨
        ∃ e, events x = evs.map SParser.SItem.ev ++ [SParser.SItem.err e]) ∧
      WellFormedPrefix evs ∧
      (events x = evs.map SParser.SItem.ev → WellFormedEvents evs) := by
  rw [events_eq_run]
  rcases file_cases x with ⟨F', evs', hp, hr, hre⟩ | ⟨e, evs', extra, hp, hr, _, hre⟩
  · exact ⟨evs', Or.inl hr, wf_of_reassemble false evs' none _ (hre false),
      fun _ => wf_of_reassemble true evs' none _ (hre true)⟩
  · refine ⟨evs', Or.inr ⟨e, hr⟩, wf_of_reassemble false evs' none _ hre, fun h => ?_⟩
    rw [hr] at h
    exact absurd h.symm (map_ev_ne_err _ _ _)

/-- declarative reading of well-formedness: after `MsgStart_list` announcing `g.numVals` values
    come exactly `g.numVals` value events and one end event, then the next message (`Grammar.list`) -/
theorem wellFormed_iff_grammar (evs : List ParseEvent) : WellFormedEvents evs ↔ Grammar evs :=
  ⟨grammar_of_wfFrom evs none, wf_of_grammar⟩

/-- a successful run is a word of the grammar -/
theorem events_grammar_ok (x : Bytes) (F : File) (h : parseFile x = .ok F) :
    ∃ evs : List ParseEvent, events x = evs.map SParser.SItem.ev ∧ Grammar evs := by
  obtain ⟨evs, he, hre⟩ := (agree_ok x F).1 h
  exact ⟨evs, he, (wellFormed_iff_grammar evs).1 (wf_of_reassemble true evs none _ hre)⟩

/-- error case: the events before the error reassemble, as a prefix, to the messages the
    allocating parser had completed - plus at most one further message, namely when the error is
    in the trailer (checksum / end marker) of a message whose events were already all emitted -/
theorem error_prefix (x : Bytes) (e : PErr) (h : parseFile x = .error e) :
    ∃ (evs : List ParseEvent) (extra : List Message),
      events x = evs.map SParser.SItem.ev ++ [SParser.SItem.err e] ∧
      extra.length ≤ 1 ∧
      reassemblePrefix evs = some (completedMessages x.length x ++ extra) := by
  rw [events_eq_run]
  rcases file_cases x with ⟨F', evs', hp, hr, hre⟩ | ⟨e', evs', extra, hp, hr, hx, hre⟩
  · rw [hp] at h; cases h
  · rw [hp] at h
    cases h
    exact ⟨evs', extra, hr, hx, hre⟩

/-- on success the completed messages are the file -/
theorem completed_ok (x : Bytes) (F : File) (h : parseFile x = .ok F) :
    completedMessages x.length x = F.messages :=
  completedMessages_ok _ _ (Nat.le_refl _) _ (parseFile_ok.1 h)

def glrHead : Bytes :=
  [0x76, 0x05, 0x01, 0x02, 0x03, 0x04, 0x62, 0x00, 0x62, 0x00, 0x72, 0x63, 0x07, 0x01,
   0x77, 0x01, 0x02, 0xaa, 0x01, 0x01]

/-- a valid list response with two values -/
def goodList : Bytes :=
  glrHead ++ [0x72,
    0x77, 0x02, 0xbb, 0x01, 0x01, 0x01, 0x01, 0x62, 0x05, 0x01,
    0x77, 0x02, 0xbc, 0x01, 0x01, 0x01, 0x01, 0x62, 0x06, 0x01,
    0x01, 0x01, 0x63, 0x44, 0x67, 0x00]

/-- a valid close response -/
def goodClose : Bytes :=
  [0x76, 0x05, 0x01, 0x02, 0x03, 0x04, 0x62, 0x00, 0x62, 0x00, 0x72, 0x63, 0x02, 0x01, 0x71, 0x01,
   0x63, 0x10, 0xb4, 0x00]

/-- the same list response with a wrong checksum -/
def badCrcList : Bytes := goodList.take (goodList.length - 2) ++ [0x00, 0x00]

/-- the list response cut inside its second value -/
def cutList : Bytes := goodList.take 35

/-- events of an error-free run -/
def evsOf (l : List SItem) : Option (List ParseEvent) :=
  l.mapM fun | .ev e => some e | .err _ => Option.none

-- two messages (list response, close response): 4 + 1 events, reassembled = the parsed file
example : (events (goodList ++ goodClose)).length = 5 := by decide +kernel
example : ((evsOf (events (goodList ++ goodClose))).bind reassemble) =
    (parseFile (goodList ++ goodClose)).toOption.map (·.messages) := by decide +kernel
example : ((parseFile (goodList ++ goodClose)).toOption.map (·.messages.length)) = some 2 := by
  decide +kernel
example : ((evsOf (events (goodList ++ goodClose))).map fun evs => decide (WellFormedEvents evs)) =
    some true := by decide +kernel
-- errors: same kind in both parsers
example : (events (goodList ++ cutList)).getLast? = some (.err .unexpectedEOF) ∧
    (events (goodList ++ cutList)).length = 7 := by decide +kernel
example : (match parseFile (goodList ++ cutList) with | .error e => some e | .ok _ => Option.none) =
    some .unexpectedEOF := by decide +kernel
-- checksum error after all events of the message: one `extra` message in `error_prefix`
example : (events (goodClose ++ badCrcList)).getLast? = some (.err .crcMismatch) ∧
    (events (goodClose ++ badCrcList)).length = 6 := by decide +kernel
example : ((evsOf ((events (goodClose ++ badCrcList)).dropLast)).bind reassemblePrefix).map
    List.length = some 2 ∧ (completedMessages (goodClose ++ badCrcList).length
      (goodClose ++ badCrcList)).length = 1 := by decide +kernel
-- the grammar rejects a list response with a missing value event
example : ¬ WellFormedEvents
    [.messageStart ⟨[], 0, 0, .getListResponse ⟨none, [], none, none, 1⟩⟩,
     .getListResponseEnd ⟨none, none⟩] := by decide
example : WellFormedPrefix
    [.messageStart ⟨[], 0, 0, .getListResponse ⟨none, [], none, none, 1⟩⟩] := by decide

end Sml.C09
