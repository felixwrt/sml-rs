import Sml.Props.C03
import Sml.Props.C06
/-
  Property C04.

  "The parsers return data only for inputs in which every message has the prescribed list arities
   and field types, a CRC-16 that matches the message bytes, the 0x00 end marker, and nothing is
   left over; whatever they return equals what an independent reading of the SML grammar (plus the
   documented vendor workaround) extracts from the same bytes.  Any other byte string - truncated,
   with trailing bytes, with a corrupted field, length or checksum, wrong arity or unknown
   variant - yields an error."

  * The independent reading of the grammar is `Spec.EncFile F x` (Sml/Spec/Grammar.lean): `x` is,
    completely, the concatenation of message encodings; each message is a list of 6 with the
    prescribed fields, the checksum field equal to the CRC-16/X.25 of the preceding message bytes
    (low byte first) and the end marker 0x00 (`Spec.EncMessage`).
  * `sound` / `iff`: the allocating parser returns `F` exactly when `x` is an encoding of `F`;
    `unique`: the grammar reads at most one file out of a byte string, so "what the grammar
    extracts" is well defined; `reject`: everything outside the grammar is an error value (and not
    one of the modelled panic sites).  `*_streaming`: the same for the streaming parser (events
    reassembled by `Spec.reassemble`, Sml/Spec/Events.lean).
  * `crc_checked`, `trailing_*`, `prefix_*` spell out consequences named in the English text.

  All statements hold for every byte string (no length bound).
-/
namespace Sml.Gram
open Sml Sml.Spec

theorem errOf_eq {α : Type} {r : Except PErr α} {e : PErr} (h : C06.errOf r = some e) :
    r = .error e := by
  cases r with
  | ok v => cases h
  | error e' =>
    simp only [C06.errOf, Option.some.injEq] at h
    rw [h]

end Sml.Gram

namespace Sml.C04
open Sml Sml.Spec

/-! ### 1. the allocating parser -/

theorem sound (x : Bytes) (F : File) (h : parseFile x = .ok F) : EncFile F x :=
  (Gram.parseFile_iff x F).1 h

theorem iff (x : Bytes) (F : File) : parseFile x = .ok F ↔ EncFile F x := Gram.parseFile_iff x F

/-- the grammar is unambiguous: a byte string encodes at most one file -/
theorem unique (F F' : File) (x : Bytes) (h : EncFile F x) (h' : EncFile F' x) : F = F' := by
  have := (C03.complete F x h).symm.trans (C03.complete F' x h')
  simpa using this

/-- anything outside the grammar yields an error value (never a panic) -/
theorem reject (x : Bytes) (h : ¬ ∃ F, EncFile F x) :
    ∃ e, parseFile x = .error e ∧ ∀ s, e ≠ .panic s := by
  cases hp : parseFile x with
  | ok F => exact absurd ⟨F, sound x F hp⟩ h
  | error e => exact ⟨e, rfl, fun s hs => C06.no_panic_complete x s (hs ▸ hp)⟩

/-- conversely, an error means that the input is outside the grammar -/
theorem error_not_enc (x : Bytes) (e : PErr) (h : parseFile x = .error e) : ¬ ∃ F, EncFile F x := by
  rintro ⟨F, hF⟩
  rw [C03.complete F x hF] at h
  cases h

/-! ### 2. the streaming parser -/

/-- if the streaming events end without an error and reassemble to `ms`, then the input is an
    encoding of the file `ms` -/
theorem sound_streaming (x : Bytes) (evs : List ParseEvent) (ms : List Message)
    (he : C09.events x = evs.map SParser.SItem.ev) (hr : reassemble evs = some ms) :
    EncFile ⟨ms⟩ x :=
  sound x ⟨ms⟩ ((C09.agree_ok x ⟨ms⟩).2 ⟨evs, he, hr⟩)

theorem iff_streaming (x : Bytes) (F : File) :
    (∃ evs : List ParseEvent,
      C09.events x = evs.map SParser.SItem.ev ∧ reassemble evs = some F.messages) ↔ EncFile F x :=
  (C09.agree_ok x F).symm.trans (iff x F)

/-- outside the grammar the streaming parser ends with an error item (never a panic) -/
theorem reject_streaming (x : Bytes) (h : ¬ ∃ F, EncFile F x) :
    ∃ (e : PErr) (evs : List ParseEvent),
      C09.events x = evs.map SParser.SItem.ev ++ [SParser.SItem.err e] ∧ ∀ s, e ≠ .panic s := by
  obtain ⟨e, he, hnp⟩ := reject x h
  obtain ⟨evs, hev⟩ := (C09.agree_err x e).1 he
  exact ⟨e, evs, hev, hnp⟩

/-! ### 3. every grammar symbol: what a successful parser call consumed is an encoding of what it
    returned -/

theorem sound_tlf (i : Bytes) (t : Tlf) (r : Bytes) (h : parseTlf i = .ok (t, r)) :
    ∃ e, i = e ++ r ∧ EncTlf t e := Gram.parses_tlf.sound i t r h

theorem sound_octet (i v r : Bytes) (h : parseOctet i = .ok (v, r)) :
    ∃ e, i = e ++ r ∧ EncOctet v e := Gram.parses_octet.sound i v r h

theorem sound_unsigned (size : Nat) (hs : size ∈ [1, 2, 4, 8]) (i : Bytes) (v : Int) (r : Bytes)
    (h : parseInt false size i = .ok (v, r)) : ∃ e, i = e ++ r ∧ EncUnsigned size v e :=
  (Gram.parses_unsigned size).sound i v r h

theorem sound_signed (size : Nat) (hs : size ∈ [1, 2, 4, 8]) (i : Bytes) (v : Int) (r : Bytes)
    (h : parseInt true size i = .ok (v, r)) : ∃ e, i = e ++ r ∧ EncSigned size v e :=
  (Gram.parses_signed size).sound i v r h

theorem sound_time (i : Bytes) (t : Time) (r : Bytes) (h : parseTime i = .ok (t, r)) :
    ∃ e, i = e ++ r ∧ EncTime t e := Gram.parses_time.sound i t r h

theorem sound_value (i : Bytes) (v : Value) (r : Bytes) (h : parseValue i = .ok (v, r)) :
    ∃ e, i = e ++ r ∧ EncValue v e := Gram.parses_value.sound i v r h

theorem sound_status (i : Bytes) (s : Status) (r : Bytes) (h : parseStatus i = .ok (s, r)) :
    ∃ e, i = e ++ r ∧ EncStatus s e := Gram.parses_status.sound i s r h

theorem sound_entry (i : Bytes) (x : ListEntry) (r : Bytes) (h : parseListEntry i = .ok (x, r)) :
    ∃ e, i = e ++ r ∧ EncListEntry x e := Gram.parses_listEntry.sound i x r h

theorem sound_valList (i : Bytes) (xs : List ListEntry) (r : Bytes)
    (h : parseList i = .ok (xs, r)) : ∃ e, i = e ++ r ∧ EncValList xs e :=
  Gram.parses_list.sound i xs r h

theorem sound_open (i : Bytes) (x : OpenResponse) (r : Bytes)
    (h : parseOpenResponse i = .ok (x, r)) : ∃ e, i = e ++ r ∧ EncOpenResponse x e :=
  Gram.parses_openResponse.sound i x r h

theorem sound_close (i : Bytes) (x : CloseResponse) (r : Bytes)
    (h : parseCloseResponse i = .ok (x, r)) : ∃ e, i = e ++ r ∧ EncCloseResponse x e :=
  Gram.parses_closeResponse.sound i x r h

theorem sound_getList (i : Bytes) (x : GetListResponse) (r : Bytes)
    (h : parseGetListResponse i = .ok (x, r)) : ∃ e, i = e ++ r ∧ EncGetListResponse x e :=
  Gram.parses_getListResponse.sound i x r h

theorem sound_body (i : Bytes) (x : MessageBody) (r : Bytes)
    (h : parseMessageBody i = .ok (x, r)) : ∃ e, i = e ++ r ∧ EncMessageBody x e :=
  Gram.parses_messageBody.sound i x r h

theorem sound_message (i : Bytes) (m : Message) (r : Bytes) (h : parseMessage i = .ok (m, r)) :
    ∃ e, i = e ++ r ∧ EncMessage m e := Gram.parses_message.sound i m r h

/-! ### 4. consequences named in the English text -/

/-- one message on the wire: the checksummed part `head` (list of 6 with transaction id, group
    number, abort-on-error and body), the checksum field (`tl ++ data`: an Unsigned TLF and one or
    two data bytes whose big-endian value is the byte-swapped CRC-16/X.25 of `head`), the end
    marker 0x00 -/
def MessageShape (m : Message) (c : Bytes) : Prop :=
  ∃ head tl data, c = head ++ (tl ++ data) ++ [0x00] ∧ EncMessageHead m head ∧
    EncTlf ⟨.unsigned, data.length⟩ tl ∧ 1 ≤ data.length ∧ data.length ≤ 2 ∧
    beNat data = (swap16 (crc16 head)).toNat

/-- an accepted input is, completely, one chunk per returned message, each with matching
    checksum and end marker -/
theorem crc_checked (x : Bytes) (F : File) (h : parseFile x = .ok F) :
    ∃ chunks : List Bytes, x = chunks.flatten ∧ chunks.length = F.messages.length ∧
      ∀ p ∈ F.messages.zip chunks, MessageShape p.1 p.2 := by
  obtain ⟨chunks, h1, h2, h3⟩ := Gram.encSeq_chunks (sound x F h)
  refine ⟨chunks, h1, h2, fun p hp => ?_⟩
  obtain ⟨head, crcField, hc, hh, tl, data, rfl, ht, h1, h2, hv⟩ := h3 p hp
  exact ⟨head, tl, data, hc, hh, ht, h1, h2, by omega⟩

/-- every message occupies at least 7 bytes; the empty input is the empty file -/
theorem message_length (m : Message) (e : Bytes) (h : EncMessage m e) : 7 ≤ e.length :=
  Gram.encMessage_length h

theorem empty_iff (F : File) (x : Bytes) (h : EncFile F x) : F.messages = [] ↔ x = [] :=
  Gram.parses_seq_nonempty (fun _ _ => Gram.encMessage_nonempty) h

/-- nothing is left over: bytes after a valid file are accepted only if they are themselves a
    sequence of valid messages (which are then returned, after those of the file) -/
theorem trailing_is_file (F F' : File) (x t : Bytes) (h : EncFile F x)
    (h' : parseFile (x ++ t) = .ok F') :
    ∃ G : File, EncFile G t ∧ F'.messages = F.messages ++ G.messages := by
  obtain ⟨g, hg1, hg2⟩ := Gram.encSeq_message_prefix h t _ F'.messages rfl (sound _ _ h')
  exact ⟨⟨g⟩, hg2, hg1⟩

/-- fewer than 7 trailing bytes always make a valid file invalid -/
theorem trailing_short (F : File) (x t : Bytes) (h : EncFile F x) (ht : t ≠ [])
    (hl : t.length < 7) : ∃ e, parseFile (x ++ t) = .error e ∧ ∀ s, e ≠ .panic s := by
  refine reject _ ?_
  rintro ⟨F', hF'⟩
  obtain ⟨g, _, hg2⟩ := Gram.encSeq_message_prefix h t _ F'.messages rfl hF'
  cases hg2 with
  | nil => exact ht rfl
  | cons hx _ => have := Gram.encMessage_length hx; simp only [List.length_append] at hl; omega

theorem trailing_byte (F : File) (x : Bytes) (b : UInt8) (h : EncFile F x) :
    ∃ e, parseFile (x ++ [b]) = .error e ∧ ∀ s, e ≠ .panic s :=
  trailing_short F x [b] h (by simp) (by simp)

/-- a prefix of a valid file is accepted only when the cut is at a message boundary -/
theorem prefix_boundary (F F' : File) (p q : Bytes) (h : EncFile F (p ++ q))
    (hp : parseFile p = .ok F') :
    ∃ G : File, EncFile G q ∧ F.messages = F'.messages ++ G.messages :=
  trailing_is_file F' F p q (sound _ _ hp) (C03.complete _ _ h)

/-- a valid file truncated by 1 to 6 bytes is rejected -/
theorem truncated_short (F : File) (p q : Bytes) (h : EncFile F (p ++ q)) (hq : q ≠ [])
    (hl : q.length < 7) : ∃ e, parseFile p = .error e ∧ ∀ s, e ≠ .panic s := by
  refine reject _ fun ⟨F', hF'⟩ => ?_
  obtain ⟨e, he, _⟩ := trailing_short F' p q hF' hq hl
  rw [C03.complete _ _ h] at he
  cases he

/-! ### 5. non-vacuity -/

open C03 in
-- `sound` applied to an accepted input gives back the encoding relation proved by hand in C03
example : EncFile sampleFile sampleBytes := sound _ _ (C03.complete _ _ sample_file_enc)

open C03 in
example : ∀ F, EncFile F sampleBytes → F = sampleFile :=
  fun F h => unique F sampleFile sampleBytes h sample_file_enc

abbrev errOf := @C06.errOf File

-- the valid close message of C03 (20 bytes) and mutations of it
example : (parseFile C03.closeBytes).toOption = some ⟨[C03.sampleClose]⟩ := by decide +kernel

/-- checksum corrupted -/
def badCrc : Bytes :=
  [0x76, 0x05, 1, 2, 3, 6, 0x62, 0, 0x62, 0, 0x72, 0x63, 0x02, 0x01, 0x71, 0x01, 0x63, 0x32, 0x1e, 0x00]
/-- a checksummed byte corrupted (group number 1 instead of 0) -/
def badField : Bytes :=
  [0x76, 0x05, 1, 2, 3, 6, 0x62, 1, 0x62, 0, 0x72, 0x63, 0x02, 0x01, 0x71, 0x01, 0x63, 0x32, 0x1f, 0x00]
/-- end marker 0x01 -/
def badEnd : Bytes :=
  [0x76, 0x05, 1, 2, 3, 6, 0x62, 0, 0x62, 0, 0x72, 0x63, 0x02, 0x01, 0x71, 0x01, 0x63, 0x32, 0x1f, 0x01]
/-- last byte missing -/
def truncated : Bytes :=
  [0x76, 0x05, 1, 2, 3, 6, 0x62, 0, 0x62, 0, 0x72, 0x63, 0x02, 0x01, 0x71, 0x01, 0x63, 0x32, 0x1f]
/-- cut inside the body -/
def truncated2 : Bytes := [0x76, 0x05, 1, 2, 3, 6, 0x62, 0, 0x62, 0, 0x72, 0x63, 0x02]
/-- one trailing byte -/
def trailing : Bytes :=
  [0x76, 0x05, 1, 2, 3, 6, 0x62, 0, 0x62, 0, 0x72, 0x63, 0x02, 0x01, 0x71, 0x01, 0x63, 0x32, 0x1f, 0x00,
   0x00]
/-- message announced as list of 5 (`75`) -/
def badArity : Bytes :=
  [0x75, 0x05, 1, 2, 3, 6, 0x62, 0, 0x62, 0, 0x72, 0x63, 0x02, 0x01, 0x71, 0x01, 0x63, 0x32, 0x1f, 0x00]
/-- close response announced as list of 2 (`72`) -/
def badArity2 : Bytes :=
  [0x76, 0x05, 1, 2, 3, 6, 0x62, 0, 0x62, 0, 0x72, 0x63, 0x02, 0x01, 0x72, 0x01, 0x63, 0x32, 0x1f, 0x00]
/-- unknown body tag 0x0301 -/
def badTag : Bytes :=
  [0x76, 0x05, 1, 2, 3, 6, 0x62, 0, 0x62, 0, 0x72, 0x63, 0x03, 0x01, 0x71, 0x01, 0x63, 0x32, 0x1f, 0x00]
/-- group number sent as Integer8 (`52`) instead of Unsigned8 -/
def badType : Bytes :=
  [0x76, 0x05, 1, 2, 3, 6, 0x52, 0, 0x62, 0, 0x72, 0x63, 0x02, 0x01, 0x71, 0x01, 0x63, 0x32, 0x1f, 0x00]
/-- group number sent in two bytes (too wide for Unsigned8) -/
def badWidth : Bytes :=
  [0x76, 0x05, 1, 2, 3, 6, 0x63, 0, 0, 0x62, 0, 0x72, 0x63, 0x02, 0x01, 0x71, 0x01, 0x63, 0x32, 0x1f, 0x00]
/-- transaction id length corrupted (`06`) -/
def badLen : Bytes :=
  [0x76, 0x06, 1, 2, 3, 6, 0x62, 0, 0x62, 0, 0x72, 0x63, 0x02, 0x01, 0x71, 0x01, 0x63, 0x32, 0x1f, 0x00]
/-- a type-length field whose value needs 33 bits -/
def overflowTlf : Bytes := [0x81, 0x80, 0x80, 0x80, 0x80, 0x80, 0x80, 0x80, 0x0b]
/-- time with unknown choice tag 2 inside an open response -/
def badTimeTag : Bytes :=
  [0x76, 0x05, 1, 2, 3, 4, 0x62, 0, 0x62, 0, 0x72, 0x63, 0x01, 0x01,
   0x76, 0x01, 0x01, 0x03, 0xaa, 0xbb, 0x04, 0x0a, 0x0b, 0x0c,
   0x72, 0x62, 0x02, 0x65, 0, 0, 0x12, 0x34, 0x01, 0x63, 0xa4, 0xeb, 0x00]

example : errOf (parseFile badCrc) = some .crcMismatch := by decide +kernel
example : errOf (parseFile badField) = some .crcMismatch := by decide +kernel
example : errOf (parseFile badEnd) = some .msgEndMismatch := by decide +kernel
example : errOf (parseFile truncated) = some .unexpectedEOF := by decide +kernel
example : errOf (parseFile truncated2) = some .unexpectedEOF := by decide +kernel
example : errOf (parseFile trailing) = some .tlfLengthUnderflow := by decide +kernel
example : errOf (parseFile badArity) = some .tlfMismatch := by decide +kernel
example : errOf (parseFile badArity2) = some .tlfMismatch := by decide +kernel
example : errOf (parseFile badTag) = some .unexpectedVariant := by decide +kernel
example : errOf (parseFile badType) = some .tlfMismatch := by decide +kernel
example : errOf (parseFile badWidth) = some .tlfMismatch := by decide +kernel
example : errOf (parseFile badLen) = some .tlfLengthUnderflow := by decide +kernel
example : errOf (parseFile overflowTlf) = some .tlfLengthOverflow := by decide +kernel
example : errOf (parseFile badTimeTag) = some .unexpectedVariant := by decide +kernel
-- ... hence none of them is in the grammar
example : ¬ ∃ F, EncFile F badCrc :=
  error_not_enc _ .crcMismatch (Gram.errOf_eq (by decide +kernel))
example : ¬ ∃ F, EncFile F badEnd :=
  error_not_enc _ .msgEndMismatch (Gram.errOf_eq (by decide +kernel))
example : ¬ ∃ F, EncFile F badArity :=
  error_not_enc _ .tlfMismatch (Gram.errOf_eq (by decide +kernel))
-- instances of `trailing_byte` / `truncated_short` on the sample file of C03
example : ∃ e, parseFile (C03.sampleBytes ++ [0x00]) = .error e ∧ ∀ s, e ≠ .panic s :=
  trailing_byte _ _ _ C03.sample_file_enc
example : ∃ e, parseFile (C03.sampleBytes.take 150) = .error e ∧ ∀ s, e ≠ .panic s :=
  truncated_short C03.sampleFile (C03.sampleBytes.take 150) (C03.sampleBytes.drop 150)
    (by rw [List.take_append_drop]; exact C03.sample_file_enc) (by decide +kernel)
    (by decide +kernel)
-- the streaming parser on a rejected input: the message-start event, then the error item, then end
example : C13.kinds ((SParser.new badCrc).take 3).2 =
    [some none, some (some .crcMismatch), none] := by decide +kernel

end Sml.C04
