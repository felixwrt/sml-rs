import Sml.Props.C15
import Sml.Props.C05VecPrefix
/-
  Property C15 for a push decoder over a `Vec<u8>` whose allocations may fail (`DecF`,
  Sml/Model/DecodeFallible.lean): if no `push_byte` call answered `Err(OutOfMemory)`, its reports
  followed by what `finalize` reports are the reference sequence of C15, hence what `decode`,
  `decode_streaming` and the readers report.  The hypothesis is observable by the caller, and by
  `C05.run_agrees_until_oom` it can only fail when an allocation really failed.
-/
namespace Sml.C15

open Sml

/-- push decoder with any allocation oracle, no `OutOfMemory` answered ⇒ the reference sequence -/
theorem fallible_push_eq_reference (alloc : List Bool) (s : List UInt8)
    (h : Out.err .oom ∉ (DecF.pushAll (DecF.fresh alloc) s).2) :
    items (DecF.pushAll (DecF.fresh alloc) s).2 ++
        (match (DecF.pushAll (DecF.fresh alloc) s).1.finalize.2 with
          | some e => [Item.err e]
          | none => []) = reference none s := by
  obtain ⟨e2, e1⟩ := C05.pushAll_eq_of_no_oom (DecF.fresh alloc) s h
  have hf : (DecF.fresh alloc).d = Dec.fresh none := rfl
  rw [hf] at e1 e2
  unfold reference finalItem DecF.finalize
  simp only [e2, e1]
  rfl

/-- ... and therefore what `decode` returns for the stream -/
theorem fallible_push_eq_decode (alloc : List Bool) (s : List UInt8)
    (h : Out.err .oom ∉ (DecF.pushAll (DecF.fresh alloc) s).2) :
    items (DecF.pushAll (DecF.fresh alloc) s).2 ++
        (match (DecF.pushAll (DecF.fresh alloc) s).1.finalize.2 with
          | some e => [Item.err e]
          | none => []) = decodeAll s := by
  rw [fallible_push_eq_reference alloc s h, decode_eq]
  rfl

/-- a bounded buffer of capacity at least the stream length whose pushes may additionally fail
    spuriously: as long as no `OutOfMemory` was answered, every `push_byte` answer is the one of
    the never-failing unbounded model (`buffer_independent` composed with the refinement) -/
theorem fallible_cap_push_eq (alloc : List Bool) (s : List UInt8) (N : Nat) (hN : s.length ≤ N)
    (h : Out.err .oom ∉ (DecF.pushAll (DecF.freshCap (some N) alloc) s).2) :
    (DecF.pushAll (DecF.freshCap (some N) alloc) s).2 = (Dec.pushAll (Dec.fresh none) s).2 := by
  have e := (C05.pushAll_eq_of_no_oom (DecF.freshCap (some N) alloc) s h).1
  have hf : (DecF.freshCap (some N) alloc).d = Dec.fresh (some N) := rfl
  rw [hf] at e
  rw [e, buffer_independent s N hN]

/-- non-vacuity: the hypothesis holds for an oracle that does contain a failure, as long as the
    failing answer is not consumed by this stream (one allocation, second answer `false`) -/
example : Out.err .oom ∉
    (DecF.pushAll (DecF.fresh [true, false]) [0x1b, 0x1b, 0x1b, 0x1b, 1, 1, 1, 1, 0x76]).2 := by
  decide

end Sml.C15
