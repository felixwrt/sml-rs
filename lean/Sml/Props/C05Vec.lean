import Sml.Lemmas.DecFallible
import Sml.Props.C02
import Sml.Props.C05
import Sml.Props.C14
/-
  Properties C05 / C14 / C02 / C17 for a decoder over a `Vec<u8>` whose allocation can fail.

  `impl Buffer for Vec<u8>` (src/util.rs:44-73) maps a failed `try_reserve` to `Err(OutOfMemory)`;
  `push_inner` (decode.rs:443-449) then resets the decoder and `push_byte` returns
  `DecodeErr::OutOfMemory`, exactly as for a full `ArrayBuf`.  The model `Dec` with `cap = none`
  (all of C01–C17) assumes that this never happens.

  Model: `DecF` (Sml/Model/DecodeFallible.lean) = `Dec` + an allocation oracle `alloc : List Bool`,
  one answer consumed per `buf.push` attempt (`true` = succeeds, `false` = `Err(OutOfMemory)`,
  `[]` = succeeds from here on).  `DecF.fresh alloc` is `Decoder::<Vec<u8>>::new()` in a world
  whose allocator answers `alloc`; `DecF.freshCap cap alloc` the same over a buffer of capacity
  `cap` (a bounded buffer whose pushes may additionally fail spuriously).  Every theorem holds
  for every oracle (failures at arbitrary pushes, any number of them, pushes after a failure may
  succeed again), every history and every stream.
-/

namespace Sml.C05

/-- the simulation: one operation of the fallible decoder
    * only consumes the oracle, and
    * either is the operation of `Dec` (same answer, same new decoder state),
    * or the oracle had a `false`, the answer is `Err(OutOfMemory)` and the decoder has been
      reset (`DecF.blank c cap` is the state `reset` leaves: `LookingForMessageStart{0,0}`,
      `raw_msg_len = 0`, `zero_cache = 0`, empty buffer of the same capacity). -/
theorem step_refines_or_oom (f : DecF) (op : Op) :
    (f.step op).1.alloc <:+ f.alloc ∧
    (((f.step op).1.d = (f.d.step op).1 ∧ (f.step op).2 = (f.d.step op).2) ∨
      ((∃ a ∈ f.alloc, a = false) ∧ (∃ c, (f.step op).1.d = DecF.blank c f.d.buf.cap) ∧
        (f.step op).2 = .out (.err .oom))) :=
  DecF.step_rel f op

/-- With an allocator that never fails (`alloc = []`, or all `true`) the fallible decoder
    produces exactly the answers and the final decoder state of the model `Dec` with `cap = none`:
    all theorems about `Dec.run (Dec.fresh none)` are the special case. -/
theorem always_true_eq (alloc : List Bool) (h : ∀ a ∈ alloc, a = true) (ops : List Op) :
    (DecF.run (DecF.fresh alloc) ops).2 = (Dec.run (Dec.fresh none) ops).2 ∧
      (DecF.run (DecF.fresh alloc) ops).1.d = (Dec.run (Dec.fresh none) ops).1 :=
  let ⟨e2, e1, _⟩ := DecF.run_allTrue ops (f := DecF.fresh alloc) h
  ⟨e2, e1⟩

/-- ... for byte streams -/
theorem always_true_eq_stream (alloc : List Bool) (h : ∀ a ∈ alloc, a = true) (s : List UInt8) :
    (DecF.pushAll (DecF.fresh alloc) s).2 = (Dec.pushAll (Dec.fresh none) s).2 ∧
      (DecF.pushAll (DecF.fresh alloc) s).1.d = (Dec.pushAll (Dec.fresh none) s).1 :=
  DecF.pushAll_allTrue s (f := DecF.fresh alloc) h

/-- ... and for every capacity, from every state -/
theorem always_true_eq_from (f : DecF) (h : ∀ a ∈ f.alloc, a = true) (ops : List Op) :
    (f.run ops).2 = (f.d.run ops).2 ∧ (f.run ops).1.d = (f.d.run ops).1 :=
  let ⟨e2, e1, _⟩ := DecF.run_allTrue ops h
  ⟨e2, e1⟩

/-- C05 for a `Vec<u8>` that may fail anywhere: no call in any history panics, whatever the
    allocator does -/
theorem no_panic_fallible (alloc : List Bool) (ops : List Op) :
    ∀ o ∈ (DecF.run (DecF.fresh alloc) ops).2, ∀ s, o ≠ OpOut.out (Out.panic s) :=
  (DecF.run_good ops (f := DecF.fresh alloc) (Dec.inv_fresh none)).2.2

/-- ... also over a bounded buffer that additionally fails spuriously -/
theorem no_panic_fallible_cap (cap : Option Nat) (alloc : List Bool) (ops : List Op) :
    ∀ o ∈ (DecF.run (DecF.freshCap cap alloc) ops).2, ∀ s, o ≠ OpOut.out (Out.panic s) :=
  (DecF.run_good ops (f := DecF.freshCap cap alloc) (Dec.inv_fresh cap)).2.2

/-- ... and for byte streams -/
theorem no_panic_fallible_stream (alloc : List Bool) (s : List UInt8) :
    ∀ o ∈ (DecF.pushAll (DecF.fresh alloc) s).2, ∀ t, o ≠ Out.panic t := by
  intro o ho t hc
  have hm : OpOut.out o ∈ (DecF.run (DecF.fresh alloc) (s.map Op.push)).2 := by
    rw [← (DecF.pushAll_eq_run s _).2]; exact List.mem_map_of_mem ho
  exact no_panic_fallible alloc _ _ hm t (by rw [hc])

/-- after any history (in particular after any allocation failure) the decoder satisfies the
    invariant `Dec.Inv` of C05 again, i.e. it is as usable as before -/
theorem inv_reachable_fallible (cap : Option Nat) (alloc : List Bool) (ops : List Op) :
    Inv (DecF.run (DecF.freshCap cap alloc) ops).1.d :=
  (DecF.run_good ops (f := DecF.freshCap cap alloc) (Dec.inv_fresh cap)).1

/-- the fallible step keeps the invariant and does not panic under it: a failed push resets to a
    state that satisfies `Inv` -/
theorem inv_step_fallible {f : DecF} (h : Inv f.d) (op : Op) :
    Inv (f.step op).1.d ∧ (f.step op).1.d.buf.cap = f.d.buf.cap ∧
      ∀ s, (f.step op).2 ≠ OpOut.out (Out.panic s) :=
  DecF.step_good h op

/-- every call answers, and the oracle is only consumed -/
theorem run_length_fallible (f : DecF) (ops : List Op) :
    (f.run ops).2.length = ops.length ∧ (f.run ops).1.alloc <:+ f.alloc :=
  ⟨DecF.run_length ops f, (DecF.run_rel ops f).1⟩

end Sml.C05

namespace Sml.C14

/-- Immediately after a boundary answer of C14 (a transmission, `InvalidMessage`, `InvalidEsc`,
    `OutOfMemory`, `finalize`, `reset`, `new`, `from_buf`) the underlying decoder is equivalent
    (`Equiv`: equal up to fields no later operation can observe) to a newly constructed one, for
    every capacity -/
theorem boundary_equiv_fresh_fallible (cap : Option Nat) (alloc : List Bool) (ops : List Op)
    (op : Op) (h : Boundary ((DecF.run (DecF.freshCap cap alloc) ops).1.step op).2) :
    Equiv (DecF.run (DecF.freshCap cap alloc) (ops ++ [op])).1.d (Dec.fresh cap) := by
  obtain ⟨h1, h2, h3⟩ := boundary_cases h
  obtain ⟨hinv, hcap, _⟩ := DecF.run_good ops (f := DecF.freshCap cap alloc) (Dec.inv_fresh cap)
  have := (DecF.step_boundary_equiv hinv op h1 h2 h3).1
  rw [hcap] at this
  rw [DecF.run_snoc]
  exact this

/-- in particular after an `OutOfMemory` answer of a `Vec`-backed decoder -/
theorem oom_leaves_fresh (alloc : List Bool) (ops : List Op) (op : Op)
    (h : ((DecF.run (DecF.fresh alloc) ops).1.step op).2 = .out (.err .oom)) :
    Equiv (DecF.run (DecF.fresh alloc) (ops ++ [op])).1.d (Dec.fresh none) :=
  boundary_equiv_fresh_fallible none alloc ops op
    (by rw [show DecF.freshCap none alloc = DecF.fresh alloc from rfl, h]; simp [Boundary])

/-- Consequently: if the last answer of a history is `OutOfMemory`, every continuation (bytes,
    `finalize`, `reset`, ...) is answered exactly as by a new decoder — in a world whose allocator
    goes on with the part of the oracle that has not been consumed. -/
theorem oom_then_as_new (alloc : List Bool) (ops : List Op)
    (h : (DecF.run (DecF.fresh alloc) ops).2.getLast? = some (.out (.err .oom))) (c : List Op) :
    (DecF.run (DecF.run (DecF.fresh alloc) ops).1 c).2 =
      (DecF.run (DecF.fresh (DecF.run (DecF.fresh alloc) ops).1.alloc) c).2 :=
  DecF.run_after_boundary (f := DecF.fresh alloc) (Dec.inv_fresh none) ops
    ⟨_, h, by simp, by simp, by simp⟩ c

/-- the same after every boundary answer, for every capacity -/
theorem boundary_fresh_fallible (cap : Option Nat) (alloc : List Bool) (ops : List Op)
    (h : ∃ o, (DecF.run (DecF.freshCap cap alloc) ops).2.getLast? = some o ∧ Boundary o)
    (c : List Op) :
    (DecF.run (DecF.run (DecF.freshCap cap alloc) ops).1 c).2 =
      (DecF.run (DecF.freshCap cap (DecF.run (DecF.freshCap cap alloc) ops).1.alloc) c).2 := by
  obtain ⟨o, hl, hb⟩ := h
  exact DecF.run_after_boundary (f := DecF.freshCap cap alloc) (Dec.inv_fresh cap) ops
    ⟨o, hl, boundary_cases hb⟩ c

/-- Recovery: once the allocator has stopped failing (the remaining oracle is all `true`), a
    decoder that has just reported `OutOfMemory` (or any other boundary answer) answers every
    continuation exactly like the infallible model `Dec` started anew — so every later frame is
    delivered (C01, C03, C04, ... apply to the rest of the stream). -/
theorem recovers (alloc : List Bool) (ops : List Op)
    (h : ∃ o, (DecF.run (DecF.fresh alloc) ops).2.getLast? = some o ∧ Boundary o)
    (hrest : ∀ a ∈ (DecF.run (DecF.fresh alloc) ops).1.alloc, a = true) (c : List Op) :
    (DecF.run (DecF.run (DecF.fresh alloc) ops).1 c).2 = (Dec.run (Dec.fresh none) c).2 := by
  refine (boundary_fresh_fallible none alloc ops h c).trans ?_
  exact (DecF.run_allTrue c (f := DecF.freshCap none _) hrest).1

end Sml.C14

namespace Sml.C02

open Spec (frame)

/-- Whenever the fallible decoder reports a payload `m` at operation `i` of a history, the
    bytes pushed since the latest `finalize` / `reset` / `new` / `from_buf` end with exactly
    `frame m` — whatever the allocator did before.  (An allocation failure only moves the decoder
    to the reset state, which satisfies the soundness invariant for every consumed prefix.) -/
theorem sound_fallible (alloc : List Bool) (ops : List Op) (i : Nat) (m : List UInt8)
    (h : (DecF.run (DecF.fresh alloc) ops).2[i]? = some (OpOut.out (Out.msg m))) :
    ∃ pre, consumed (ops.take (i + 1)) = pre ++ frame m := by
  rw [consumed_eq]
  exact DecF.sound_run (f := DecF.fresh alloc) (Dec.winv_fresh none) ops i m h

/-- ... for every capacity -/
theorem sound_fallible_cap (cap : Option Nat) (alloc : List Bool) (ops : List Op) (i : Nat)
    (m : List UInt8)
    (h : (DecF.run (DecF.freshCap cap alloc) ops).2[i]? = some (OpOut.out (Out.msg m))) :
    ∃ pre, consumed (ops.take (i + 1)) = pre ++ frame m := by
  rw [consumed_eq]
  exact DecF.sound_run (f := DecF.freshCap cap alloc) (Dec.winv_fresh cap) ops i m h

/-- Plain streams: if the byte at index `i` makes the fallible decoder report `m`, the stream up
    to and including that byte ends with exactly `frame m`. -/
theorem sound_stream_fallible (alloc : List Bool) (s : List UInt8) (i : Nat) (m : List UInt8)
    (h : (DecF.pushAll (DecF.fresh alloc) s).2[i]? = some (Out.msg m)) :
    ∃ pre, s.take (i + 1) = pre ++ frame m := by
  obtain ⟨pre, hp⟩ :=
    DecF.sound_pushAll (f := DecF.fresh alloc) (Dec.winv_fresh none) (List.suffix_refl []) s i m h
  exact ⟨pre, hp.symm⟩

end Sml.C02

namespace Sml.C17

open Spec (tileOps pushCount)

/-- Every report of every operation is the one the positions dictate (walker `Spec.tileOps` of
    Sml/Spec/Tiling.lean), also across allocation failures: an `OutOfMemory` ends the tile of the
    frame it interrupts at the current position, and the `DiscardedBytes` count reported at the
    next start sequence is exactly the number of bytes between that position and the start
    sequence. -/
theorem tiling_history_fallible (cap : Option Nat) (alloc : List Bool) (ops : List Op) :
    ∃ b, tileOps 0 0 (DecF.run (DecF.freshCap cap alloc) ops).2 = some (b, pushCount ops) := by
  obtain ⟨⟨_, b, _, _, e, _⟩, _⟩ :=
    DecF.winv_run ops (f := DecF.freshCap cap alloc) (Dec.winv_fresh cap) (List.suffix_refl [])
      (b := 0) (i := 0) rfl
  rw [Nat.zero_add] at e
  exact ⟨b, e⟩

end Sml.C17

namespace Sml.C05

open Spec (frame)

/-- Two frames; the allocator fails at the second payload byte of the first frame (`[true, false]`):
    `OutOfMemory` at that byte (index 9), the remaining 10 bytes of the first frame are noise,
    reported as `DiscardedBytes(10)` when the second start sequence completes, then the second
    frame's payload is delivered. -/
example :
    (DecF.pushAll (DecF.fresh [true, false])
      (frame [0x12, 0x34, 0x56, 0x78] ++ frame [0xaa, 0x00, 0xbb])).2 =
      List.replicate 9 Out.none ++ [Out.err .oom] ++ List.replicate 17 Out.none ++
        [Out.err (.discarded 10)] ++ List.replicate 11 Out.none ++ [Out.msg [0xaa, 0x00, 0xbb]] := by
  decide +kernel

/-- the same stream with an allocator that never fails: both payloads (and the model `Dec`) -/
example :
    (DecF.pushAll (DecF.fresh [true, true, true, true, true, true, true, true])
      (frame [0x12, 0x34, 0x56, 0x78] ++ frame [0xaa, 0x00, 0xbb])).2.filterMap Out.toItem? =
      [.ok [0x12, 0x34, 0x56, 0x78], .ok [0xaa, 0x00, 0xbb]] := by
  decide +kernel

/-- the allocator fails twice, in two different frames, and the third frame gets through; the
    second failure happens in the `flush` of cached zero bytes at the very last byte of its frame
    (`pushEnd`), so that frame's last byte reports `OutOfMemory` instead of the payload -/
example :
    (DecF.pushAll (DecF.fresh [false, true, true, false])
      (frame [0x12] ++ frame [0x01, 0x00, 0x00, 0x00] ++ frame [0x34])).2.filterMap Out.toItem? =
      [.err .oom, .err (.discarded 11), .err .oom, .ok [0x34]] := by
  decide +kernel

/-- the oracle is consumed one answer per buffer push: the frame of `01 00 00 02` makes 4 pushes
    (`01`; the two cached zero bytes, flushed when `02` arrives; `02`), the start and end sequences
    make none; the fifth answer (`false`) is still there afterwards -/
example :
    (DecF.pushAll (DecF.fresh [true, true, true, true, false])
      (frame [0x01, 0x00, 0x00, 0x02])).1.alloc = [false] ∧
    (DecF.pushAll (DecF.fresh [true, true, true, true, false])
      (frame [0x01, 0x00, 0x00, 0x02])).2.getLast? = some (Out.msg [0x01, 0x00, 0x00, 0x02]) := by
  decide +kernel

end Sml.C05

namespace Sml.C14

open Spec (frame)

/-- the hypothesis of `oom_leaves_fresh` / `oom_then_as_new` on a concrete history -/
example : (DecF.run (DecF.fresh [true, false])
      ((frame [0x12, 0x34, 0x56, 0x78]).take 10 |>.map Op.push)).2.getLast? =
    some (.out (.err .oom)) := by
  decide +kernel

/-- ... and its conclusion: the frame pushed after the failure is delivered, as by a new decoder -/
example : (DecF.run (DecF.run (DecF.fresh [true, false])
      ((frame [0x12, 0x34, 0x56, 0x78]).take 10 |>.map Op.push)).1
        ((frame [0xaa, 0xbb]).map Op.push)).2.getLast? = some (.out (.msg [0xaa, 0xbb])) := by
  decide +kernel

end Sml.C14

namespace Sml.C02

open Spec (frame)

/-- the hypothesis of `sound_stream_fallible` is met after a failure: index 39 of the two-frame
    stream reports the second payload -/
example :
    (DecF.pushAll (DecF.fresh [true, false])
      (frame [0x12, 0x34, 0x56, 0x78] ++ frame [0xaa, 0x00, 0xbb])).2[39]? =
      some (Out.msg [0xaa, 0x00, 0xbb]) := by
  decide +kernel

end Sml.C02
