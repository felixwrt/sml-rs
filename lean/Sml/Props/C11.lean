import Sml.Lemmas.RdrFaults
import Sml.Props.C15
import Sml.Props.C17
/-
  Property C11.

  "For any byte stream and any placement of source faults between bytes, would-block and
  interrupted conditions never change the sequence of decoded results: each would-block surfaces
  once with zero discarded bytes and reading resumes where it stopped.  Any other read error is
  returned together with the exact number of not-yet-reported bytes it discards, after which
  reading continues exactly like a fresh reader on the remaining stream.  End of input makes next
  return None iff no partial data is pending, and keeps doing so on further calls."

  * model : `Rdr` (Sml/Model/Frontends.lean): `DecoderReader` over a source that answers the
    successive `read_byte` attempts with the events `evs : List Ev`
    (`byte b | wouldBlock | interrupted | other | eof`) and with end of input once the list is
    used up.
    `SrcKind.io` = `IoByteSource` over `std::io::Read` (`read_exact` of one byte retries
    `Interrupted`; `Ok(0)` is `UnexpectedEof`), `SrcKind.mem` = slice / iterator source.
    An arbitrary `evs` is an arbitrary byte stream with an arbitrary finite sequence of faults at
    every inter-byte position (and before the first / after the last byte).
    End of input comes in two forms: the *final* one at the end of `evs` (every later read attempt
    reports it again), and the *mid-stream* one, the event `Ev.eof`: this read attempt reports end
    of input (`Ok(0)` / `UnexpectedEof` from the inner reader), later attempts deliver the
    following events (a file that is being appended to, a socket / pipe that delivers more
    later).  `evs` is arbitrary, so both can be at any position.
  * the complete behaviour: `nexts_eq` (`k` calls of `next` return `results`, then `None` forever)
    and `calls_eq` (any interleaving of `read` / `next` / `read_nb` / `next_nb`); the clauses of the
    property are statements about `results` / `readResults`.
  All theorems hold for all event lists (with any number of mid-stream ends of input) and all
  buffer capacities.  A hypothesis `Ev.eof ∉ evs` appears only where a statement is *about* the
  absence of end-of-input reports before the final one:
    - `results_spec`, `other_resets` : the clause "no `None` / no `IoErr(Eof, _)` among these
      results" (a mid-stream end of input is, by definition, such a result),
    - `wouldblock_reference` : "with would-block / interrupted faults only",
    - `nextBody_eq_body` : the form `results` has then.
-/
namespace Sml.C11

open RF (view body opsOf bytesOf)

/-- remove the `WouldBlock` and `Interrupted` events (errors and mid-stream ends of input stay).  The
lemma modules have the same recursion as `RF.strip` (`strip_eq`) and, for every source kind, the
filter `Rdr.strip kind`. -/
def strip : List Ev → List Ev
  | [] => []
  | .byte b :: evs => .byte b :: strip evs
  | .wouldBlock :: evs => strip evs
  | .interrupted :: evs => strip evs
  | .other :: evs => .other :: strip evs
  | .eof :: evs => .eof :: strip evs

/-- the results of `k` successive `next` calls -/
def nexts (r : Rdr) (k : Nat) : List RItem := (r.calls (List.replicate k .next)).2

/-- the results of `k` successive `read` calls -/
def reads (r : Rdr) (k : Nat) : List RItem := (r.calls (List.replicate k .read)).2

/-- what `reset` returns once the events are used up (new reader, capacity `cap`) -/
def pending (cap : Option Nat) (evs : List Ev) : Nat :=
  ((Dec.run (Dec.fresh cap) (opsOf evs)).1.reset).2

/-- the results `next` produces while events are left: those of `read` (`body`), with
`IoErr(Eof, 0)` (a mid-stream end of input with nothing pending) presented as `None` -/
def nextBody (cap : Option Nat) (evs : List Ev) : List RItem :=
  (body (Dec.fresh cap) evs).map (view .next)

/-- everything `next` returns before it starts returning `None` for good -/
def results (cap : Option Nat) (evs : List Ev) : List RItem :=
  nextBody cap evs ++
    (if pending cap evs = 0 then [] else [RItem.ioErr .eof (pending cap evs)])

/-- everything `read` returns before it starts returning `IoErr(Eof, 0)` -/
def readResults (cap : Option Nat) (evs : List Ev) : List RItem :=
  body (Dec.fresh cap) evs ++ [RItem.ioErr .eof (pending cap evs)]

theorem strip_eq (evs : List Ev) : strip evs = RF.strip evs := by
  induction evs with
  | nil => rfl
  | cons e evs ih => cases e <;> simp [strip, RF.strip, ih]

theorem nextBody_eq (cap : Option Nat) (evs : List Ev) :
    nextBody cap evs = RF.nextBody (Dec.fresh cap) evs := rfl

/-- without a mid-stream end of input `next` and `read` return the same results while events are
left, and `results` has the form `body ++ …` -/
theorem nextBody_eq_body (cap : Option Nat) (evs : List Ev) (h : Ev.eof ∉ evs) :
    nextBody cap evs = body (Dec.fresh cap) evs ∧
    results cap evs = body (Dec.fresh cap) evs ++
      (if pending cap evs = 0 then [] else [RItem.ioErr .eof (pending cap evs)]) := by
  have := RF.map_view_next_body (Dec.fresh cap) evs h
  exact ⟨this, by unfold results nextBody; rw [this]⟩

/-- `k` successive `next` calls, any `k`: `results`, then `None` forever -/
theorem nexts_eq (cap : Option Nat) (evs : List Ev) (k : Nat) :
    nexts (Rdr.new .io cap evs) k = padTo RItem.none (results cap evs) k :=
  RF.nexts_io (Dec.fresh cap) evs k

/-- `results` is determined by `nexts_eq`: it contains no `IoErr(Eof, 0)` (which `next` turns into
`None`) and a `None` only for a mid-stream end of input with nothing pending — at most one per
`Ev.eof` event, hence none at all if there is no such event (the hypothesis `Ev.eof ∉ evs` is
needed for that clause, e.g. `results cap [.eof] = [None]`);
`|evs| + 1` calls suffice to see all of it -/
theorem results_spec (cap : Option Nat) (evs : List Ev) :
    (∀ x ∈ results cap evs,
      (Ev.eof ∉ evs → x ≠ RItem.none) ∧ x ≠ RItem.nbWouldBlock ∧ x ≠ RItem.ioErr .eof 0) ∧
      (results cap evs).count RItem.none ≤ evs.count .eof ∧
      (results cap evs).length ≤ evs.length + 1 :=
  ⟨fun x hx => by
      have := RF.results_mem (Dec.fresh cap) evs x hx
      exact ⟨this.1, this.2.1, this.2.2.1⟩,
    RF.count_none_results (Dec.fresh cap) evs,
    RF.results_length_le (Dec.fresh cap) evs⟩

/-- every entry point is `read` followed by a relabelling of its result; all four leave the
reader in the same state -/
theorem all_calls (r : Rdr) (c : Rdr.Call) : r.call c = ((r.read).1, view c (r.read).2) :=
  RF.call_eq_read r c

/-- `read_nb` / `next_nb` are `read` / `next` with `IoErr(WouldBlock, _)` turned into
`nb::Error::WouldBlock`; nothing else changes -/
theorem nb_variants (r : Rdr) :
    r.readNb = (match r.read with
      | (r', .ioErr .wouldBlock _) => (r', RItem.nbWouldBlock)
      | x => x) ∧
    r.nextNb = (match r.next with
      | (r', .ioErr .wouldBlock _) => (r', RItem.nbWouldBlock)
      | x => x) := by
  refine ⟨rfl, ?_⟩
  have h1 := RF.call_eq_read r .nextNb
  have h2 := RF.call_eq_read r .next
  simp only [Rdr.call] at h1 h2
  rw [h1, h2]
  rcases r.read with ⟨r', x⟩
  rcases x with _ | _ | ⟨_ | _ | _, _ | _⟩ | _ | _ | _ <;> rfl

/-- any sequence of `read` / `next` / `read_nb` / `next_nb` calls -/
theorem calls_eq (cap : Option Nat) (evs : List Ev) (cs : List Rdr.Call) :
    ((Rdr.new .io cap evs).calls cs).2 =
      List.zipWith view cs (padTo (RItem.ioErr .eof 0) (readResults cap evs) cs.length) := by
  unfold readResults pending
  rw [RF.body_eq, show (Dec.run (Dec.fresh cap) (opsOf evs)).1 = Rdr.decAfter .io (Dec.fresh cap) evs
    from RF.endDec_eq _ evs]
  exact Rdr.calls_eq_trace .io evs (Dec.fresh cap) cs

theorem reads_eq (cap : Option Nat) (evs : List Ev) (k : Nat) :
    reads (Rdr.new .io cap evs) k = padTo (RItem.ioErr .eof 0) (readResults cap evs) k := by
  unfold reads readResults pending
  rw [Rdr.new, Rdr.calls_replicate, RF.body_eq, ← RF.endDec_eq]
  show padTo _ (List.map id _) k = _
  rw [List.map_id]; rfl

/-- Erasing the would-block results gives exactly the results of the same stream without
would-block and interrupted events (same items, same order, same counts); every would-block event
surfaces exactly once; it always carries the count 0. -/
theorem wouldblock_transparent (cap : Option Nat) (evs : List Ev) :
    dropWB (results cap evs) = results cap (strip evs) ∧
    (results cap evs).count (RItem.ioErr .wouldBlock 0) = evs.count .wouldBlock ∧
    ∀ n, RItem.ioErr .wouldBlock n ∈ results cap evs → n = 0 := by
  refine ⟨?_, RF.count_wb_results (Dec.fresh cap) evs, fun n hn => ?_⟩
  · rw [strip_eq]; exact (RF.results_strip (Dec.fresh cap) evs).symm
  · exact (RF.results_mem (Dec.fresh cap) evs _ hn).2.2.2 n rfl

/-- the same for `read` (hence, by `calls_eq`, for every entry point) -/
theorem wouldblock_transparent_read (cap : Option Nat) (evs : List Ev) :
    dropWB (readResults cap evs) = readResults cap (strip evs) := by
  rw [strip_eq]; exact (RF.readResults_strip (Dec.fresh cap) evs).symm

/-- In terms of calls, from any reader state: with `W` would-block events, the first `k` results
other than would-block among `k + W` calls of `next` are the results of `k` calls on the stream
without would-block and interrupted events — for every `k`. -/
theorem wouldblock_transparent_from (d : Dec) (evs : List Ev) (k : Nat) :
    (dropWB (nexts { kind := .io, dec := d, evs := evs } (k + evs.count .wouldBlock))).take k =
      nexts { kind := .io, dec := d, evs := strip evs } k := by
  unfold nexts
  rw [RF.nexts_io, RF.nexts_io, strip_eq, RF.results_strip, ← RF.count_wb_results d evs]
  exact RF.dropWB_padTo_none (RF.results d evs) k

/-- the same for a new reader -/
theorem wouldblock_transparent_calls (cap : Option Nat) (evs : List Ev) (k : Nat) :
    (dropWB (nexts (Rdr.new .io cap evs) (k + evs.count .wouldBlock))).take k =
      nexts (Rdr.new .io cap (strip evs)) k :=
  wouldblock_transparent_from (Dec.fresh cap) evs k

/-- With would-block / interrupted faults only (no `other` error and no mid-stream end of input,
which resets the decoder like `other`), the results other than
would-block are the reference sequence of C15 for the bytes of the stream. -/
theorem wouldblock_reference (cap : Option Nat) (evs : List Ev) (h : Ev.other ∉ evs)
    (h' : Ev.eof ∉ evs) :
    dropWB (results cap evs) =
      (C15.items (Dec.pushAll (Dec.fresh cap) (bytesOf evs)).2).map Item.toR ++
        C15.finalRItem (Dec.pushAll (Dec.fresh cap) (bytesOf evs)).1 := by
  rw [(wouldblock_transparent cap evs).1, strip_eq, RF.strip_eq, RF.strip_eq_bytes .io evs fun e he hr => by
    cases e with
    | other => exact h he
    | eof => exact h' he
    | _ => cases hr]
  exact RF.results_bytes _ (Dec.inv_fresh cap)

/-- One `read` call that runs into a would-block after the events `pre` (bytes answered
`Ok(None)` and interrupts, i.e. nothing to return): the would-block is returned with count 0, the
decoder keeps the state reached after the bytes of `pre`, the source is positioned behind the fault;
and the next call continues exactly as the first would have without the fault. -/
theorem read_wouldBlock (d : Dec) (pre post : List Ev) (hq : body d pre = []) :
    Rdr.readLoop .io d (pre ++ .wouldBlock :: post) =
      ({ kind := .io, dec := (Dec.run d (opsOf pre)).1, evs := post }, RItem.ioErr .wouldBlock 0) ∧
    Rdr.readLoop .io (Dec.run d (opsOf pre)).1 post = Rdr.readLoop .io d (pre ++ post) := by
  have hq' := fun rest => RF.endDec_eq d pre ▸ Rdr.readLoop_append_quiet .io pre d rest
    (RF.body_eq pre d ▸ hq)
  rw [hq', hq']
  exact ⟨rfl, rfl⟩

/-- `Interrupted` is retried inside `read_exact`: the event is invisible -/
theorem read_interrupted (d : Dec) (evs : List Ev) :
    Rdr.readLoop .io d (.interrupted :: evs) = Rdr.readLoop .io d evs :=
  Rdr.readLoop_cons_quiet (kind := .io) (d := d) (e := .interrupted) rfl evs

/-- Events `pre`, then an error, then `post`.  With `rs` = the results `pre` produces before its
end of input (the first `|rs|` results on `pre` alone) and `n` = the count the reader would attach
to `Eof` there (`results cap pre` is `rs`, followed by `IoErr(Eof, n)` unless `n = 0`):
the reader returns `rs`, then exactly one `IoErr(Other, n)`, then exactly what a new reader returns
on `post` — for any number of further calls. -/
theorem other_resets (cap : Option Nat) (pre post : List Ev) :
    let rs := nextBody cap pre
    let n := pending cap pre
    results cap pre = rs ++ (if n = 0 then [] else [RItem.ioErr .eof n]) ∧
    -- `rs` holds no end-of-input report unless `pre` has a mid-stream end of input
    (Ev.eof ∉ pre → ∀ x ∈ rs, x ≠ RItem.none ∧ ∀ m, x ≠ RItem.ioErr .eof m) ∧
    nexts (Rdr.new .io cap pre) rs.length = rs ∧
    results cap (pre ++ .other :: post) = rs ++ [RItem.ioErr .other n] ++ results cap post ∧
    ∀ k, nexts (Rdr.new .io cap (pre ++ .other :: post)) (rs.length + 1 + k) =
      rs ++ [RItem.ioErr .other n] ++ nexts (Rdr.new .io cap post) k := by
  intro rs n
  have h3 : results cap (pre ++ .other :: post) = rs ++ [RItem.ioErr .other n] ++ results cap post :=
    RF.results_cut_fresh cap pre post (Or.inl rfl)
  refine ⟨rfl, fun hne x hx => ?_, ?_, h3, fun k => ?_⟩
  · have := RF.nextBody_mem (Dec.fresh cap) pre x hx
    exact ⟨this.1 hne, this.2.2.2.1 hne⟩
  · rw [nexts_eq]
    exact padTo_append_length _ _ _
  · rw [nexts_eq, nexts_eq, h3]
    exact padTo_append_singleton_left _ _ _ _ _

/-- the same for `read` (hence for every entry point, by `calls_eq`) -/
theorem other_resets_read (cap : Option Nat) (pre post : List Ev) :
    let rs := body (Dec.fresh cap) pre
    let n := pending cap pre
    readResults cap (pre ++ .other :: post) = rs ++ [RItem.ioErr .other n] ++ readResults cap post ∧
    ∀ k, reads (Rdr.new .io cap (pre ++ .other :: post)) (rs.length + 1 + k) =
      rs ++ [RItem.ioErr .other n] ++ reads (Rdr.new .io cap post) k := by
  intro rs n
  have h3 : readResults cap (pre ++ .other :: post) =
      rs ++ [RItem.ioErr .other n] ++ readResults cap post :=
    RF.readResults_cut_fresh cap pre post (Or.inl rfl)
  refine ⟨h3, fun k => ?_⟩
  rw [reads_eq, reads_eq, h3]
  exact padTo_append_singleton_left _ _ _ _ _

/-- The count is exact (C17): the operations `evs` causes tile the bytes of `evs` with last
boundary `b`, and the count reported at end of input is the number of bytes after `b`. -/
theorem eof_count_exact (cap : Option Nat) (evs : List Ev) :
    ∃ b, Spec.tileOps 0 0 (Dec.run (Dec.fresh cap) (opsOf evs)).2 = some (b, (bytesOf evs).length) ∧
      b + pending cap evs = (bytesOf evs).length := by
  obtain ⟨b, h1, h2, _⟩ := C17.reset_count cap (opsOf evs)
  rw [RF.pushCount_opsOf] at h1 h2
  exact ⟨b, h1, h2⟩

/-- the count attached to an error after `pre` is the same number -/
theorem other_count_exact (cap : Option Nat) (pre : List Ev) :
    ∃ b, Spec.tileOps 0 0 (Dec.run (Dec.fresh cap) (opsOf pre)).2 = some (b, (bytesOf pre).length) ∧
      b + pending cap pre = (bytesOf pre).length :=
  eof_count_exact cap pre

/-- why the reader continues like a new one: the decoder the error leaves behind differs from a
new decoder in dead fields only (C14), and such decoders give the same results on every event
sequence -/
theorem other_leaves_fresh (cap : Option Nat) (pre : List Ev) :
    Dec.Equiv ((Dec.run (Dec.fresh cap) (opsOf pre)).1.reset).1 (Dec.fresh cap) :=
  Dec.reset_run_equiv_fresh cap _

theorem equiv_same_results {d d' : Dec} (h : Dec.Equiv d d') (evs : List Ev) (cs : List Rdr.Call) :
    (({ kind := .io, dec := d, evs := evs } : Rdr).calls cs).2 =
      (({ kind := .io, dec := d', evs := evs } : Rdr).calls cs).2 := by
  exact Rdr.calls_equiv .io evs cs h

/-- A reader (slice / iterator / `io::Read`) whose source is exhausted, in any decoder state `d`:
`next` returns `None` iff `reset` has nothing to discard, otherwise `IoErr(Eof, n)` with that count
`n > 0`; `read` returns `IoErr(Eof, n)` in both cases.  Either call resets the decoder, and from
then on every `next` returns `None` and every `read` returns `IoErr(Eof, 0)`. -/
theorem eof (kind : SrcKind) (hk : kind = .mem ∨ kind = .io) (d : Dec) :
    let r : Rdr := { kind := kind, dec := d, evs := [] }
    (r.next).2 = (if (d.reset).2 = 0 then RItem.none else RItem.ioErr .eof (d.reset).2) ∧
    ((r.next).2 = RItem.none ↔ (d.reset).2 = 0) ∧
    (r.read).2 = RItem.ioErr .eof (d.reset).2 ∧
    (r.next).1 = { kind := kind, dec := (d.reset).1, evs := [] } ∧
    (r.read).1 = { kind := kind, dec := (d.reset).1, evs := [] } ∧
    (((d.reset).1.reset).2 = 0) ∧
    (∀ j, nexts (r.next).1 j = List.replicate j RItem.none) ∧
    (∀ j, nexts (r.read).1 j = List.replicate j RItem.none) ∧
    (∀ j, reads (r.next).1 j = List.replicate j (RItem.ioErr .eof 0)) ∧
    (∀ j, reads (r.read).1 j = List.replicate j (RItem.ioErr .eof 0)) := by
  have hk' := Rdr.ne_eh hk
  intro r
  have hn : r.next = _ := Rdr.next_nil hk' d
  have hr : r.read = _ := Rdr.read_nil hk' d
  have hx : ∀ (c : Rdr.Call) j,
      (({ kind := kind, dec := d.reset.1, evs := [] } : Rdr).calls (List.replicate j c)).2 =
        List.replicate j (view c (.ioErr .eof 0)) := fun c j => by
    rw [RF.calls_exhausted hk' _ (Dec.isReset_reset d), List.map_replicate]
  rw [hn, hr]
  refine ⟨rfl, ?_, rfl, rfl, rfl, rfl, hx .next, hx .next, hx .read, hx .read⟩
  simp only
  split <;> simp_all

/-- "nothing pending" in terms of the decoder state (every state reachable inside a reader
satisfies `Dec.Inv`, C05): `reset` returns 0 iff a transmission has just been delivered or not a
single byte has arrived since the last boundary; and that is exactly when `finalize` reports
nothing. -/
theorem eof_pending {d : Dec} (h : Dec.Inv d) :
    ((d.reset).2 = 0 ↔ d.st = .done ∨ d.st = .look 0 0) ∧
    ((d.finalize).2 = none ↔ (d.reset).2 = 0) :=
  ⟨Dec.reset_eq_zero_iff h, Dec.finalize_none_iff h⟩

/-- whole streams: after the results produced by the events, `next` returns `None` at once iff
nothing is pending, otherwise one `IoErr(Eof, pending)`; then `None` on all further calls -/
theorem eof_stream (cap : Option Nat) (evs : List Ev) (k : Nat) :
    nexts (Rdr.new .io cap evs) ((nextBody cap evs).length + 1 + k) =
      nextBody cap evs ++
        (if pending cap evs = 0 then RItem.none else RItem.ioErr .eof (pending cap evs)) ::
          List.replicate k RItem.none := by
  rw [nexts_eq, results, Nat.add_assoc, padTo_append_left, Nat.add_comm 1 k]
  split
  · rw [padTo_nil, List.replicate_succ]
  · rw [padTo_cons, padTo_nil]

/-- One call on a reader (slice / iterator / `io::Read`) in any decoder state `d` whose source now
reports end of input but has the events `evs` to deliver later: `read` returns `IoErr(Eof, n)` with
`n` = what `reset` discards; `next` returns `None` iff `n = 0`, otherwise the same error.  Either
call resets the decoder and leaves the source positioned behind the event. -/
theorem eof_midstream_call (kind : SrcKind) (hk : kind = .mem ∨ kind = .io) (d : Dec)
    (evs : List Ev) :
    let r : Rdr := { kind := kind, dec := d, evs := .eof :: evs }
    r.read = ({ kind := kind, dec := (d.reset).1, evs := evs }, RItem.ioErr .eof (d.reset).2) ∧
    r.next = ({ kind := kind, dec := (d.reset).1, evs := evs }, midEof (d.reset).2) ∧
    ((r.next).2 = RItem.none ↔ (d.reset).2 = 0) := by
  intro r
  have hr : r.read = _ := RF.read_eof (Rdr.ne_eh hk) d evs
  have hn : r.next = ({ kind := kind, dec := (d.reset).1, evs := evs }, midEof (d.reset).2) := by
    have := all_calls r .next
    rw [hr] at this
    exact this.trans (by rw [← RF.view_next_eof])
  refine ⟨hr, hn, ?_⟩
  rw [hn]
  unfold midEof
  split <;> simp_all

/-- Events `pre`, then a mid-stream end of input, then `post` — `next`.  With `rs` = what `next`
returns on the events `pre` and `n` = the number of pending bytes there (`results cap pre` is `rs`,
followed by `IoErr(Eof, n)` unless `n = 0`): the reader returns `rs`, then for the end of input
exactly one result — `None` if nothing is pending, `IoErr(Eof, n)` with the exact count otherwise —,
then exactly what a new reader returns on `post`, for any number of further calls.  In particular
after a `None` later calls of `next` can return data again. -/
theorem eof_midstream (cap : Option Nat) (pre post : List Ev) :
    let rs := nextBody cap pre
    let n := pending cap pre
    results cap pre = rs ++ (if n = 0 then [] else [RItem.ioErr .eof n]) ∧
    nexts (Rdr.new .io cap pre) rs.length = rs ∧
    results cap (pre ++ .eof :: post) = rs ++ [midEof n] ++ results cap post ∧
    ∀ k, nexts (Rdr.new .io cap (pre ++ .eof :: post)) (rs.length + 1 + k) =
      rs ++ [midEof n] ++ nexts (Rdr.new .io cap post) k := by
  intro rs n
  have h3 : results cap (pre ++ .eof :: post) = rs ++ [midEof n] ++ results cap post := by
    refine (RF.results_cut_fresh cap pre post (Or.inr rfl)).trans ?_
    show _ ++ [view .next (.ioErr .eof _)] ++ _ = _
    rw [RF.view_next_eof]; rfl
  refine ⟨rfl, ?_, h3, fun k => ?_⟩
  · rw [nexts_eq]
    exact padTo_append_length _ _ _
  · rw [nexts_eq, nexts_eq, h3]
    exact padTo_append_singleton_left _ _ _ _ _

/-- the same for `read` (hence for every entry point, by `calls_eq`): the results of `read` are
exact, the end of input is `IoErr(Eof, n)` also for `n = 0` -/
theorem eof_midstream_read (cap : Option Nat) (pre post : List Ev) :
    let rs := body (Dec.fresh cap) pre
    let n := pending cap pre
    readResults cap (pre ++ .eof :: post) = rs ++ [RItem.ioErr .eof n] ++ readResults cap post ∧
    ∀ k, reads (Rdr.new .io cap (pre ++ .eof :: post)) (rs.length + 1 + k) =
      rs ++ [RItem.ioErr .eof n] ++ reads (Rdr.new .io cap post) k := by
  intro rs n
  have h3 : readResults cap (pre ++ .eof :: post) =
      rs ++ [RItem.ioErr .eof n] ++ readResults cap post :=
    RF.readResults_cut_fresh cap pre post (Or.inr rfl)
  refine ⟨h3, fun k => ?_⟩
  rw [reads_eq, reads_eq, h3]
  exact padTo_append_singleton_left _ _ _ _ _

/-- the count attached to a mid-stream end of input is exact (C17), and the decoder it leaves
behind is as good as new (C14): both are the statements for `other`, because the two events cause
the same decoder operation (`reset`) -/
theorem eof_midstream_count_exact (cap : Option Nat) (pre : List Ev) :
    (∃ b, Spec.tileOps 0 0 (Dec.run (Dec.fresh cap) (opsOf pre)).2 =
        some (b, (bytesOf pre).length) ∧ b + pending cap pre = (bytesOf pre).length) ∧
    Dec.Equiv ((Dec.run (Dec.fresh cap) (opsOf pre)).1.reset).1 (Dec.fresh cap) ∧
    opsOf (pre ++ [.eof]) = opsOf (pre ++ [.other]) :=
  ⟨other_count_exact cap pre, other_leaves_fresh cap pre, by
    rw [RF.opsOf_append, RF.opsOf_append]; rfl⟩

/-- a slice / iterator source (bytes only) behaves like an `io::Read` without faults -/
theorem eof_stream_mem (cap : Option Nat) (s : List UInt8) (k : Nat) :
    nexts (Rdr.new .mem cap (s.map Ev.byte)) k = nexts (Rdr.new .io cap (s.map Ev.byte)) k := by
  unfold nexts
  rw [C15.reader_eq .mem (Or.inl rfl), C15.reader_eq .io (Or.inr rfl)]

/-- the frame of `12 34 56 78` -/
def frame : List UInt8 :=
  [0x1b, 0x1b, 0x1b, 0x1b, 0x01, 0x01, 0x01, 0x01, 0x12, 0x34, 0x56, 0x78,
   0x1b, 0x1b, 0x1b, 0x1b, 0x1a, 0x00, 0xb8, 0x7b]

/-- the frame split by `WouldBlock`, `Interrupted`, `WouldBlock WouldBlock` -/
def split : List Ev :=
  (frame.take 5).map .byte ++ [.wouldBlock] ++ ((frame.drop 5).take 3).map .byte ++ [.interrupted] ++
    ((frame.drop 8).take 4).map .byte ++ [.wouldBlock, .wouldBlock] ++ (frame.drop 12).map .byte

example : nexts (Rdr.new .io none split) 6 =
    [.ioErr .wouldBlock 0, .ioErr .wouldBlock 0, .ioErr .wouldBlock 0, .ok [0x12, 0x34, 0x56, 0x78],
      .none, .none] := by
  decide +kernel

example : strip split = frame.map .byte := by decide +kernel

example : nexts (Rdr.new .io none (strip split)) 3 = [.ok [0x12, 0x34, 0x56, 0x78], .none, .none] := by
  decide +kernel

example : split.count .wouldBlock = 3 := by decide +kernel

/-- the non-blocking entry points on the same stream -/
example : ((Rdr.new .io none split).calls [.nextNb, .readNb, .next, .nextNb, .nextNb, .read]).2 =
    [.nbWouldBlock, .nbWouldBlock, .ioErr .wouldBlock 0, .ok [0x12, 0x34, 0x56, 0x78], .none,
      .ioErr .eof 0] := by
  decide +kernel

/-- an error 9 bytes into a frame (and a would-block before it), then a complete frame: the count
is the 9 bytes of the cut-off part, the following frame is delivered -/
def cut : List Ev :=
  (frame.take 4).map .byte ++ [.wouldBlock] ++ ((frame.drop 4).take 5).map .byte ++ [.other] ++
    frame.map .byte

example : nexts (Rdr.new .io none cut) 5 =
    [.ioErr .wouldBlock 0, .ioErr .other 9, .ok [0x12, 0x34, 0x56, 0x78], .none, .none] := by
  decide +kernel

example : pending none ((frame.take 4).map .byte ++ [.wouldBlock] ++ ((frame.drop 4).take 5).map .byte)
    = 9 := by
  decide +kernel

/-- an error right after a delivered frame discards nothing -/
example : nexts (Rdr.new .io none (frame.map .byte ++ [.other] ++ frame.map .byte)) 4 =
    [.ok [0x12, 0x34, 0x56, 0x78], .ioErr .other 0, .ok [0x12, 0x34, 0x56, 0x78], .none] := by
  decide +kernel

/-- end of input after a partial frame: one `Eof` with the 9 pending bytes, then `None` -/
example : nexts (Rdr.new .io none ((frame.take 9).map .byte)) 3 =
    [.ioErr .eof 9, .none, .none] := by
  decide +kernel

example : nexts (Rdr.new .mem none ((frame ++ frame.take 9).map .byte)) 4 =
    [.ok [0x12, 0x34, 0x56, 0x78], .ioErr .eof 9, .none, .none] := by
  decide +kernel

/-- end of input on a boundary: `None` at once; `read` reports `Eof, 0` -/
example : nexts (Rdr.new .io none (frame.map .byte)) 3 =
    [.ok [0x12, 0x34, 0x56, 0x78], .none, .none] := by
  decide +kernel

example : reads (Rdr.new .io none (frame.map .byte)) 3 =
    [.ok [0x12, 0x34, 0x56, 0x78], .ioErr .eof 0, .ioErr .eof 0] := by
  decide +kernel

/-- mid-stream end of input on a boundary (a file that is appended to between two reads): `next`
returns `None`, and the next call delivers the frame that has arrived meanwhile; `read` reports
`IoErr(Eof, 0)` instead -/
example : nexts (Rdr.new .io none (frame.map .byte ++ [.eof] ++ frame.map .byte)) 5 =
    [.ok [0x12, 0x34, 0x56, 0x78], .none, .ok [0x12, 0x34, 0x56, 0x78], .none, .none] := by
  decide +kernel

example : reads (Rdr.new .io none (frame.map .byte ++ [.eof] ++ frame.map .byte)) 5 =
    [.ok [0x12, 0x34, 0x56, 0x78], .ioErr .eof 0, .ok [0x12, 0x34, 0x56, 0x78], .ioErr .eof 0,
      .ioErr .eof 0] := by
  decide +kernel

/-- mid-stream end of input 9 bytes into a frame: the 9 bytes are reported and discarded, the rest
of that frame (11 bytes) is noise to the reset decoder, the following frame is delivered -/
example : nexts (Rdr.new .io none
      ((frame.take 9).map .byte ++ [.eof] ++ (frame.drop 9).map .byte ++ frame.map .byte)) 5 =
    [.ioErr .eof 9, .decErr (.discarded 11), .ok [0x12, 0x34, 0x56, 0x78], .none, .none] := by
  decide +kernel

example : results none (frame.map .byte ++ [.eof, .eof] ++ (frame.take 3).map .byte) =
    [.ok [0x12, 0x34, 0x56, 0x78], .none, .none, .ioErr .eof 3] := by
  decide +kernel

/-- the hypothesis of `read_wouldBlock` is met by the first five bytes of a frame -/
example : body (Dec.fresh none) ((frame.take 5).map .byte) = [] := by decide +kernel

end Sml.C11
