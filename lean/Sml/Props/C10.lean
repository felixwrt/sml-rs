import Sml.Props.C01
import Sml.Lemmas.E2E
import Sml.Props.C03
import Sml.Props.C15
/-
  Property C10.

  "For any sequence of SML files, each framed by the transport encoder and separated by arbitrary
  inter-frame noise, an SmlReader over any supported source (slice, iterator, io::Read) and buffer
  kind yields the files in order - as raw payload, as parsed file and as event stream - reports
  noise only as discarded byte counts, and signals end of input exactly when all bytes are
  consumed.  Its results equal composing the transport decoder and the parser by hand."

  * model : `Rdr` (`DecoderReader` over a byte source, Sml/Model/Frontends.lean) with
    `SrcKind.mem` (slice / iterator) or `SrcKind.io` (`io::Read`) over the events
    `s.map Ev.byte` (the source delivers the bytes `s`, then end of input);
    `Rdr.smlCall` / `Rdr.smlCalls` / `adapt` (Sml/Model/SmlReader.lean): an `SmlReader` call
    `read::<T>` / `next::<T>` / `read_nb::<T>` / `next_nb::<T>` is the `DecoderReader` call followed
    by `T::parse_from` (`Target.bytes` = `DecodedBytes`, `.file` = `File`, `.parser` = `Parser`,
    iterated to its end by the caller: `SmlItem.events`).
    `cap : Option Nat` is the buffer: `none` = `Vec<u8>`, `some N` = `ArrayBuf<N>` (the default
    buffer is `ArrayBuf<8192>`).
  * input : `stream gs tail` = `g₁ ++ frame p₁ ++ … ++ g_k ++ frame p_k ++ tail` for any list
    `gs = [(g₁, p₁), …, (g_k, p_k)]` of (noise, payload) pairs and trailing noise `tail`
    (`tail` is `g_{k+1}`).  `Spec.frame p` is what both encoders produce (C07; `encoded_eq_frame`).
  * reading decisions (DESIGN.md, C10): "arbitrary inter-frame noise" is noise that does not
    contain the start sequence, the class `C08.StartFree` (noise `START ++ 1b` legitimately
    destroys the next frame); the buffer must fit each payload (`fitsCap cap |p|`, vacuous for
    `Vec`), otherwise C16's out-of-memory applies.  Noise may be empty, may end in 0x1b bytes or in
    a partial start sequence.
  * `padTo x l n` = the first `n` elements of "`l`, then `x` forever"; `RF.view c` = how entry
    point `c` presents the result of `read` (C11: `next` turns `IoErr(Eof, 0)` into `None`, the
    `_nb` variants turn `IoErr(WouldBlock, _)` into `nb::Error::WouldBlock`).
  * "a valid encoding of file `F`" is `Spec.EncFile F p` (C03); `C09.events p` is the `for` loop
    over `Parser::new(p)`.

  All theorems hold for every number of files, all payloads and noise strings in the class above,
  both source kinds, every capacity that fits the payloads, every number and kind of calls and
  every per-call choice of target.  `equals_hand_composition` and `equals_decode_then_parse` hold for
  every byte stream whatsoever.
-/
namespace Sml.C10

open Spec (frame)
open C07 (fitsCap)
open C08 (StartFree)
open RF (view)

/-- everything `next` returns before it starts returning `None` -/
def expected (gs : List (List UInt8 × List UInt8)) (tail : List UInt8) : List RItem :=
  delivered gs ++ (if tail = [] then [] else [RItem.ioErr .eof tail.length])

/-- everything `read` returns before it starts returning `IoErr(Eof, 0)` -/
def expectedRead (gs : List (List UInt8 × List UInt8)) (tail : List UInt8) : List RItem :=
  delivered gs ++ [RItem.ioErr .eof tail.length]

/-- `n` calls of `next`, any `n`: per frame the noise length (if any) as a discarded-bytes error,
then the payload, in order; then the trailing noise as one `IoErr(Eof, |tail|)` (nothing if there
is none); then `None` forever. -/
theorem reader_results (kind : SrcKind) (hk : kind = .mem ∨ kind = .io) (cap : Option Nat)
    (gs : List (List UInt8 × List UInt8)) (tail : List UInt8)
    (hg : ∀ gp ∈ gs, StartFree gp.1 ∧ fitsCap cap gp.2.length) (ht : StartFree tail) (n : Nat) :
    ((Rdr.new kind cap ((stream gs tail).map Ev.byte)).calls (List.replicate n .next)).2 =
      padTo RItem.none (expected gs tail) n := by
  rw [reader_results_of_tail kind hk cap gs hg tail [] tail.length (tailRes_noise cap tail ht),
    List.map_nil, List.append_nil]
  cases tail <;> rfl

/-- `expected` contains no `None`: so by `reader_results` the `i`-th call of `next` returns `None`
exactly from the point on where every frame has been delivered and the leftover noise (if any) has
been reported, i.e. when all bytes of the stream are consumed and accounted for -/
theorem expected_ne_none (gs : List (List UInt8 × List UInt8)) (tail : List UInt8) :
    ∀ x ∈ expected gs tail, x ≠ RItem.none := by
  rintro x hx rfl
  unfold expected delivered at hx
  simp only [List.mem_append, List.mem_flatMap, List.mem_singleton, reduceCtorEq, or_false] at hx
  rcases hx with ⟨gp, _, h⟩ | h <;> split at h <;> simp at h

theorem none_iff_end (kind : SrcKind) (hk : kind = .mem ∨ kind = .io) (cap : Option Nat)
    (gs : List (List UInt8 × List UInt8)) (tail : List UInt8)
    (hg : ∀ gp ∈ gs, StartFree gp.1 ∧ fitsCap cap gp.2.length) (ht : StartFree tail) (n i : Nat)
    (hi : i < n) :
    ((Rdr.new kind cap ((stream gs tail).map Ev.byte)).calls (List.replicate n .next)).2[i]? =
        some RItem.none ↔ (expected gs tail).length ≤ i := by
  rw [reader_results kind hk cap gs tail hg ht, getElem?_padTo _ _ _ _ hi]
  constructor
  · intro h
    rcases Nat.lt_or_ge i (expected gs tail).length with hlt | hge
    · rw [List.getElem?_eq_getElem hlt] at h
      exact absurd (Option.some.inj h) (expected_ne_none gs tail _ (List.getElem_mem hlt))
    · exact hge
  · intro h
    rw [List.getElem?_eq_none h]
    rfl

/-- the same through the push decoder: the non-`None` answers of `push_byte`, and the answer of
`finalize` -/
theorem decoder_results (cap : Option Nat) (gs : List (List UInt8 × List UInt8))
    (tail : List UInt8) (hg : ∀ gp ∈ gs, StartFree gp.1 ∧ fitsCap cap gp.2.length)
    (ht : StartFree tail) :
    (C15.items (Dec.pushAll (Dec.fresh cap) (stream gs tail)).2).map Item.toR = delivered gs ∧
      (Dec.pushAll (Dec.fresh cap) (stream gs tail)).1.finalize.2 =
        (if tail = [] then none else some (.discarded tail.length)) := by
  obtain ⟨h1, h2, _⟩ :=
    stream_decodes_tail cap gs hg tail [] tail.length (tailRes_noise cap tail ht)
  refine ⟨by rw [h1, List.append_nil]; exact E2E.map_toR_segItems gs, ?_⟩
  rw [Dec.finalize_eq_reset (Dec.pushAll_inv _ (Dec.inv_fresh cap)), h2]
  cases tail <;> rfl

/-- The `i`-th call presents (`view`) the `i`-th element of `expectedRead`, and `IoErr(Eof, 0)`
once these are used up: `read` / `read_nb` report the end of input as `IoErr(Eof, |tail|)` once and
`IoErr(Eof, 0)` afterwards, `next` / `next_nb` turn `IoErr(Eof, 0)` into `None`. -/
theorem reader_results_calls (kind : SrcKind) (hk : kind = .mem ∨ kind = .io) (cap : Option Nat)
    (gs : List (List UInt8 × List UInt8)) (tail : List UInt8)
    (hg : ∀ gp ∈ gs, StartFree gp.1 ∧ fitsCap cap gp.2.length) (ht : StartFree tail)
    (cs : List Rdr.Call) :
    ((Rdr.new kind cap ((stream gs tail).map Ev.byte)).calls cs).2 =
      List.zipWith view cs (padTo (RItem.ioErr .eof 0) (expectedRead gs tail) cs.length) := by
  rw [reader_results_calls_of_tail kind hk cap gs hg tail [] tail.length
    (tailRes_noise cap tail ht), List.map_nil, List.append_nil]
  rfl

/-- Any reader state, any calls: the `SmlReader` results are the `DecoderReader` results of the
same calls, each passed through the adapter of the target chosen for that call; the reader is left
in the same state. -/
theorem sml_calls_eq_adapt (r : Rdr) (cs : List (Rdr.Call × Target)) :
    (r.smlCalls cs).2 = List.zipWith (fun ct x => adapt ct.2 x) cs (r.calls (cs.map Prod.fst)).2 ∧
      (r.smlCalls cs).1 = (r.calls (cs.map Prod.fst)).1 :=
  E2E.smlCalls_eq cs r

/-- what entry point `c` with target `t` returns when `read` returns `x` -/
def present (c : Rdr.Call) (t : Target) (x : RItem) : SmlItem := adapt t (view c x)

/-- Any interleaving of the four entry points, any target per call, on the stream: the `i`-th call
returns `present c t` of the `i`-th element of `expectedRead`, resp. of `IoErr(Eof, 0)` afterwards.
`present` is made explicit for every item that can occur by `present_payload` … `present_end`. -/
theorem sml_results_calls (kind : SrcKind) (hk : kind = .mem ∨ kind = .io) (cap : Option Nat)
    (gs : List (List UInt8 × List UInt8)) (tail : List UInt8)
    (hg : ∀ gp ∈ gs, StartFree gp.1 ∧ fitsCap cap gp.2.length) (ht : StartFree tail)
    (cs : List (Rdr.Call × Target)) :
    ((Rdr.new kind cap ((stream gs tail).map Ev.byte)).smlCalls cs).2 =
      List.zipWith (fun ct x => present ct.1 ct.2 x) cs
        (padTo (RItem.ioErr .eof 0) (expectedRead gs tail) cs.length) := by
  rw [(E2E.smlCalls_eq cs _).1, reader_results_calls kind hk cap gs tail hg ht, List.length_map]
  exact E2E.zipWith_zipWith_map (fun ct x => adapt ct.2 x) view Prod.fst cs _

/-- a delivered payload, by target: the bytes themselves / the result of `parse` / the items of
the streaming parser (every entry point) -/
theorem present_payload (c : Rdr.Call) (t : Target) (p : List UInt8) :
    present c t (.ok p) =
      match t with
      | .bytes => SmlItem.bytes p
      | .file =>
        (match parseFile p with
          | .ok F => SmlItem.file F
          | .error e => SmlItem.parseErr e)
      | .parser => SmlItem.events (C09.events p) := by
  cases c <;> cases t <;> rfl

/-- a payload that is a valid encoding of the file `F` (C03): as `File` it is `F`; as `Parser` it
yields error-free events that reassemble to the messages of `F` -/
theorem present_file (c : Rdr.Call) (F : File) (p : List UInt8) (h : Spec.EncFile F p) :
    present c .file (.ok p) = SmlItem.file F ∧
      ∃ evs : List ParseEvent, present c .parser (.ok p) = SmlItem.events (evs.map SParser.SItem.ev) ∧
        Spec.reassemble evs = some F.messages := by
  obtain ⟨evs, h1, h2⟩ := C03.complete_streaming F p h
  refine ⟨?_, evs, ?_, h2⟩
  · rw [present_payload]
    simp only [C03.complete F p h]
  · rw [present_payload]
    simp only [h1]

/-- noise before a frame: the discarded-bytes error, unchanged, whatever the target and the entry
point -/
theorem present_noise (c : Rdr.Call) (t : Target) (n : Nat) :
    present c t (.decErr (.discarded n)) = SmlItem.decErr (.discarded n) := by
  cases c <;> rfl

/-- end of input, whatever the target: `read` / `read_nb` return `IoErr(Eof, n)`; `next` /
`next_nb` return `None` iff `n = 0`, i.e. iff nothing is left over -/
theorem present_end (c : Rdr.Call) (t : Target) (n : Nat) :
    present c t (.ioErr .eof n) =
      if (c = .next ∨ c = .nextNb) ∧ n = 0 then SmlItem.none else SmlItem.ioErr .eof n := by
  cases c <;> cases n <;> rfl

/-- `next::<T>` with a target per call: the adapters applied to `expected`, then `None` forever -/
theorem sml_results_next (kind : SrcKind) (hk : kind = .mem ∨ kind = .io) (cap : Option Nat)
    (gs : List (List UInt8 × List UInt8)) (tail : List UInt8)
    (hg : ∀ gp ∈ gs, StartFree gp.1 ∧ fitsCap cap gp.2.length) (ht : StartFree tail)
    (ts : List Target) :
    ((Rdr.new kind cap ((stream gs tail).map Ev.byte)).smlCalls
        (ts.map fun t => (Rdr.Call.next, t))).2 =
      List.zipWith adapt ts (padTo RItem.none (expected gs tail) ts.length) := by
  rw [E2E.smlCalls_next_targets, reader_results kind hk cap gs tail hg ht]

/-- noise as an `SmlReader` result -/
def noiseItem (g : List UInt8) : List SmlItem :=
  if g = [] then [] else [SmlItem.decErr (.discarded g.length)]

/-- leftover bytes at end of input as an `SmlReader` result -/
def tailItem (tail : List UInt8) : List SmlItem :=
  if tail = [] then [] else [SmlItem.ioErr .eof tail.length]

/-- `n` calls of `next::<T>` for one target `T`, any `n`: per frame the noise (if any) and
`T::parse_from` of the payload, in order; the leftover noise; then `None` forever. -/
theorem sml_results_target (kind : SrcKind) (hk : kind = .mem ∨ kind = .io) (cap : Option Nat)
    (gs : List (List UInt8 × List UInt8)) (tail : List UInt8)
    (hg : ∀ gp ∈ gs, StartFree gp.1 ∧ fitsCap cap gp.2.length) (ht : StartFree tail)
    (t : Target) (n : Nat) :
    ((Rdr.new kind cap ((stream gs tail).map Ev.byte)).smlCalls
        (List.replicate n (Rdr.Call.next, t))).2 =
      padTo SmlItem.none
        ((gs.flatMap fun gp => noiseItem gp.1 ++ [adapt t (.ok gp.2)]) ++ tailItem tail) n := by
  rw [E2E.smlCalls_next, reader_results kind hk cap gs tail hg ht, map_padTo]
  show padTo SmlItem.none _ n = _
  unfold expected
  rw [List.map_append]
  rw [E2E.map_adapt_delivered]
  congr 2
  unfold tailItem
  split <;> rfl

/-- as raw payloads (`DecodedBytes`) -/
theorem payloads_in_order (kind : SrcKind) (hk : kind = .mem ∨ kind = .io) (cap : Option Nat)
    (gs : List (List UInt8 × List UInt8)) (tail : List UInt8)
    (hg : ∀ gp ∈ gs, StartFree gp.1 ∧ fitsCap cap gp.2.length) (ht : StartFree tail) (n : Nat) :
    ((Rdr.new kind cap ((stream gs tail).map Ev.byte)).smlCalls
        (List.replicate n (Rdr.Call.next, Target.bytes))).2 =
      padTo SmlItem.none
        ((gs.flatMap fun gp => noiseItem gp.1 ++ [SmlItem.bytes gp.2]) ++ tailItem tail) n :=
  sml_results_target kind hk cap gs tail hg ht .bytes n

/-- the (noise, payload) pairs of a list of (noise, file, encoding of the file) triples -/
def payloads (xs : List (List UInt8 × File × List UInt8)) : List (List UInt8 × List UInt8) :=
  xs.map fun x => (x.1, x.2.2)

theorem payloads_hyp {cap : Option Nat} {xs : List (List UInt8 × File × List UInt8)}
    (hx : ∀ x ∈ xs, StartFree x.1 ∧ Spec.EncFile x.2.1 x.2.2 ∧ fitsCap cap x.2.2.length) :
    ∀ gp ∈ payloads xs, StartFree gp.1 ∧ fitsCap cap gp.2.length := by
  intro gp hgp
  obtain ⟨x, hxm, rfl⟩ := List.mem_map.1 hgp
  exact ⟨(hx x hxm).1, (hx x hxm).2.2⟩

/-- As parsed files: for any files `F₁ … F_k`, any valid encodings `p₁ … p_k` of them and any noise
`g₁ … g_k`, `tail`, the reader returns `F₁ … F_k` in order, each preceded by the length of its
noise (if any); then the leftover noise; then `None` forever. -/
theorem files_in_order (kind : SrcKind) (hk : kind = .mem ∨ kind = .io) (cap : Option Nat)
    (xs : List (List UInt8 × File × List UInt8)) (tail : List UInt8)
    (hx : ∀ x ∈ xs, StartFree x.1 ∧ Spec.EncFile x.2.1 x.2.2 ∧ fitsCap cap x.2.2.length)
    (ht : StartFree tail) (n : Nat) :
    ((Rdr.new kind cap ((stream (payloads xs) tail).map Ev.byte)).smlCalls
        (List.replicate n (Rdr.Call.next, Target.file))).2 =
      padTo SmlItem.none
        ((xs.flatMap fun x => noiseItem x.1 ++ [SmlItem.file x.2.1]) ++ tailItem tail) n := by
  rw [sml_results_target kind hk cap (payloads xs) tail (payloads_hyp hx) ht]
  unfold payloads
  rw [List.flatMap_map]
  congr 2
  apply E2E.flatMap_congr_mem
  intro x hxm
  have h : adapt Target.file (RItem.ok x.2.2) = SmlItem.file x.2.1 :=
    (present_file .next x.2.1 x.2.2 (hx x hxm).2.1).1
  show _ ++ [adapt Target.file (RItem.ok x.2.2)] = _
  rw [h]

/-- As event streams: the same with `Parser`; the items of the `i`-th payload are error-free events
that reassemble (Sml/Spec/Events.lean) to the messages of `F_i`. -/
theorem events_in_order (kind : SrcKind) (hk : kind = .mem ∨ kind = .io) (cap : Option Nat)
    (xs : List (List UInt8 × File × List UInt8)) (tail : List UInt8)
    (hx : ∀ x ∈ xs, StartFree x.1 ∧ Spec.EncFile x.2.1 x.2.2 ∧ fitsCap cap x.2.2.length)
    (ht : StartFree tail) (n : Nat) :
    ((Rdr.new kind cap ((stream (payloads xs) tail).map Ev.byte)).smlCalls
        (List.replicate n (Rdr.Call.next, Target.parser))).2 =
      padTo SmlItem.none
        ((xs.flatMap fun x => noiseItem x.1 ++ [SmlItem.events (C09.events x.2.2)]) ++
          tailItem tail) n ∧
      ∀ x ∈ xs, ∃ evs : List ParseEvent,
        C09.events x.2.2 = evs.map SParser.SItem.ev ∧ Spec.reassemble evs = some x.2.1.messages := by
  refine ⟨?_, fun x hxm => C03.complete_streaming _ _ (hx x hxm).2.1⟩
  rw [sml_results_target kind hk cap (payloads xs) tail (payloads_hyp hx) ht]
  unfold payloads
  rw [List.flatMap_map]
  rfl

/-- For any byte stream `s` (well-formed or not): `n` calls of `next::<T>` return the payloads and
decode errors of the push decoder (the non-`None` answers of `push_byte`), each passed through
`T::parse_from`, then what `finalize` would report (as `IoErr(Eof, k)` instead of
`DiscardedBytes(k)`), then `None` forever. -/
theorem equals_hand_composition (s : List UInt8) (cap : Option Nat) (kind : SrcKind)
    (hk : kind = .mem ∨ kind = .io) (t : Target) (n : Nat) :
    ((Rdr.new kind cap (s.map Ev.byte)).smlCalls (List.replicate n (Rdr.Call.next, t))).2 =
      padTo SmlItem.none
        ((C15.items (Dec.pushAll (Dec.fresh cap) s).2).map (fun it => adapt t it.toR) ++
          (C15.finalRItem (Dec.pushAll (Dec.fresh cap) s).1).map (adapt t)) n := by
  rw [E2E.smlCalls_next, C15.reader_eq kind hk, map_padTo, List.map_append, List.map_map]
  rfl

/-- The same against the other front-ends: `pre ++ fin` is what `decode` (`Vec` buffer) and
`decode_streaming` (any buffer) return for `s` — `fin` being the trailing `DiscardedBytes(k)` of
`finalize`, if any — and the `SmlReader` returns `T::parse_from` of each element of `pre`, then
`IoErr(Eof, k)` for the same `k` (if any), then `None` forever. -/
theorem equals_decode_then_parse (s : List UInt8) (cap : Option Nat) (kind : SrcKind)
    (hk : kind = .mem ∨ kind = .io) (t : Target) (n : Nat) :
    ∃ (pre fin : List Item) (finR : List RItem),
      C15.collect (DecIter.new cap s) (s.length + 2) = pre ++ fin ∧
      (cap = none → decodeAll s = pre ++ fin) ∧
      ((fin = [] ∧ finR = []) ∨
        ∃ k, 0 < k ∧ fin = [Item.err (.discarded k)] ∧ finR = [RItem.ioErr .eof k]) ∧
      ((Rdr.new kind cap (s.map Ev.byte)).smlCalls (List.replicate n (Rdr.Call.next, t))).2 =
        padTo SmlItem.none (pre.map (fun it => adapt t it.toR) ++ finR.map (adapt t)) n := by
  refine ⟨C15.items (Dec.pushAll (Dec.fresh cap) s).2,
    C15.finalItem (Dec.pushAll (Dec.fresh cap) s).1,
    C15.finalRItem (Dec.pushAll (Dec.fresh cap) s).1, C15.iter_eq cap s, ?_,
    C15.finalItem_cases cap s, equals_hand_composition s cap kind hk t n⟩
  rintro rfl
  exact C15.decode_eq s

/-- `b` is what an encoder produced for payload `p`: the buffer encoder (any buffer it fits in),
or the iterator encoder polled to its end -/
def Encoded (p b : List UInt8) : Prop :=
  (∃ capE, encodeBuf capE p = EncRes.ok b) ∨
    b = C01.collect ((Enc.new p).run (frame p).length).2

theorem encoded_vec (p : List UInt8) : encodeBuf none p = EncRes.ok (frame p) := C07.buf_vec p

theorem encoded_iter (p : List UInt8) :
    C01.collect ((Enc.new p).run (frame p).length).2 = frame p := C01.encodeIter_bytes p

/-- both encoders produce exactly `Spec.frame p` -/
theorem encoded_eq_frame (p b : List UInt8) (h : Encoded p b) : b = frame p := by
  rcases h with ⟨capE, h⟩ | h
  · rw [C07.buf_eq_spec] at h
    split at h
    · exact (EncRes.ok.inj h).symm
    · cases h
  · rw [h, C01.encodeIter_bytes]

/-- (noise, payload, encoder output) triples: the byte stream actually sent -/
def encodedStream (xs : List (List UInt8 × List UInt8 × List UInt8)) (tail : List UInt8) :
    List UInt8 :=
  (xs.flatMap fun x => x.1 ++ x.2.2) ++ tail

/-- `reader_results` (and with it everything above) for frames produced by the encoders -/
theorem encoded_stream_eq (xs : List (List UInt8 × List UInt8 × List UInt8)) (tail : List UInt8)
    (hx : ∀ x ∈ xs, Encoded x.2.1 x.2.2) :
    encodedStream xs tail = stream (xs.map fun x => (x.1, x.2.1)) tail := by
  unfold encodedStream stream
  rw [List.flatMap_map]
  congr 1
  apply E2E.flatMap_congr_mem
  intro x hxm
  rw [encoded_eq_frame _ _ (hx x hxm)]

theorem reader_results_encoded (kind : SrcKind) (hk : kind = .mem ∨ kind = .io) (cap : Option Nat)
    (xs : List (List UInt8 × List UInt8 × List UInt8)) (tail : List UInt8)
    (hx : ∀ x ∈ xs, StartFree x.1 ∧ Encoded x.2.1 x.2.2 ∧ fitsCap cap x.2.1.length)
    (ht : StartFree tail) (n : Nat) :
    ((Rdr.new kind cap ((encodedStream xs tail).map Ev.byte)).calls (List.replicate n .next)).2 =
      padTo RItem.none (expected (xs.map fun x => (x.1, x.2.1)) tail) n := by
  rw [encoded_stream_eq xs tail (fun x hxm => (hx x hxm).2.1)]
  exact reader_results kind hk cap _ tail (fun gp hgp => by
    obtain ⟨x, hxm, rfl⟩ := List.mem_map.1 hgp
    exact ⟨(hx x hxm).1, (hx x hxm).2.2⟩) ht n

/-- three payloads: a valid close response (C03), four bytes that are not SML, another valid close
response (C09); no noise before the first, noise `00 1b` before the second, the partial start
sequence `1b1b1b1b 01` before the third, and three trailing `1b` -/
def sampleGs : List (List UInt8 × List UInt8) :=
  [([], C03.closeBytes), ([0x00, 0x1b], [1, 2, 3, 4]),
   ([0x1b, 0x1b, 0x1b, 0x1b, 0x01], C09.goodClose)]

def sampleTail : List UInt8 := [0x1b, 0x1b, 0x1b]

example : StartFree ([] : List UInt8) := by decide
example : StartFree [0x00, 0x1b] := by decide
example : StartFree [0x1b, 0x1b, 0x1b, 0x1b, 0x01] := by decide
example : StartFree sampleTail := by decide

/-- the hypotheses of the theorems hold, with an `ArrayBuf<20>` that exactly fits the largest
payload -/
theorem sample_hyp : ∀ gp ∈ sampleGs, StartFree gp.1 ∧ fitsCap (some 20) gp.2.length := by decide

example : (stream sampleGs sampleTail).length = 102 := by decide +kernel

/-- the first payload is a valid encoding of a file -/
theorem sample_enc : Spec.EncFile { messages := [C03.sampleClose] } C03.closeBytes :=
  Spec.EncSeq.cons C03.sample_close_enc .nil

/-- calls mixing the four entry points and the three targets -/
def sampleCalls : List (Rdr.Call × Target) :=
  [(.next, .file), (.read, .bytes), (.nextNb, .file), (.readNb, .parser), (.next, .parser),
   (.next, .bytes), (.next, .file), (.read, .bytes), (.nextNb, .parser)]

/-- the conclusion, evaluated independently of the theorems: file, noise, parse error of the
non-SML payload, noise, event stream, leftover noise, then `None` / `IoErr(Eof, 0)` -/
example : ((Rdr.new .mem (some 20) ((stream sampleGs sampleTail).map Ev.byte)).smlCalls
      sampleCalls).2 =
    [.file { messages := [C03.sampleClose] }, .decErr (.discarded 2), .parseErr .tlfMismatch,
     .decErr (.discarded 5), .events (C09.events C09.goodClose), .ioErr .eof 3, .none,
     .ioErr .eof 0, .none] := by decide +kernel

example : ((Rdr.new .io none ((stream sampleGs sampleTail).map Ev.byte)).smlCalls
      sampleCalls).2 =
    [.file { messages := [C03.sampleClose] }, .decErr (.discarded 2), .parseErr .tlfMismatch,
     .decErr (.discarded 5), .events (C09.events C09.goodClose), .ioErr .eof 3, .none,
     .ioErr .eof 0, .none] := by decide +kernel

example : (C09.events C09.goodClose).length = 1 := by decide +kernel

/-- the same as instances of the theorems -/
example : ((Rdr.new .mem (some 20) ((stream sampleGs sampleTail).map Ev.byte)).smlCalls
      sampleCalls).2 =
    List.zipWith (fun ct x => present ct.1 ct.2 x) sampleCalls
      (padTo (RItem.ioErr .eof 0) (expectedRead sampleGs sampleTail) sampleCalls.length) :=
  sml_results_calls .mem (Or.inl rfl) (some 20) sampleGs sampleTail sample_hyp (by decide) _

example : expected sampleGs sampleTail =
    [.ok C03.closeBytes, .decErr (.discarded 2), .ok [1, 2, 3, 4], .decErr (.discarded 5),
     .ok C09.goodClose, .ioErr .eof 3] := by decide +kernel

example : ((Rdr.new .io (some 20) ((stream sampleGs sampleTail).map Ev.byte)).calls
      (List.replicate 8 .next)).2 =
    [.ok C03.closeBytes, .decErr (.discarded 2), .ok [1, 2, 3, 4], .decErr (.discarded 5),
     .ok C09.goodClose, .ioErr .eof 3, .none, .none] := by decide +kernel

example : present .nextNb .file (.ok C03.closeBytes) = .file { messages := [C03.sampleClose] } :=
  (present_file _ _ _ sample_enc).1

/-- no trailing noise: `None` right after the last file -/
example : ((Rdr.new .mem none ((stream [([0x1b], C03.closeBytes)] []).map Ev.byte)).smlCalls
      [(.next, .file), (.next, .file), (.next, .file), (.read, .file)]).2 =
    [.decErr (.discarded 1), .file { messages := [C03.sampleClose] }, .none, .ioErr .eof 0] := by
  decide +kernel

/-- the noise class is needed: noise that contains a start sequence (`START ++ 1b`) destroys the
frame that follows -/
example : ¬ StartFree (START ++ [0x1b]) := by decide

example : ((Rdr.new .mem none ((stream [(START ++ [0x1b], [1, 2, 3, 4])] []).map Ev.byte)).calls
      (List.replicate 3 .next)).2 =
    [.decErr (.invalidEsc 0x1b 0x01 0x01 0x01), .ioErr .eof 13, .none] := by decide +kernel

/-- the capacity hypothesis is needed: an `ArrayBuf<3>` cannot hold a payload of four bytes -/
example : ((Rdr.new .mem (some 3) ((stream [([], [1, 2, 3, 4])] []).map Ev.byte)).calls
      (List.replicate 3 .next)).2 = [.decErr .oom, .ioErr .eof 8, .none] := by decide +kernel

end Sml.C10
