import Sml.Lemmas.GramFile
import Sml.Lemmas.GramIntro
import Sml.Props.C09
/-
  Property C03.

  "For every SML file in the supported subset (open, close and get-list responses with any number
   of list entries, every value type and integer width, optional fields present or absent, single-
   and multi-byte type-length fields, the standard and the vendor-workaround time encoding) and
   every valid wire encoding of it, both parsers return exactly that content.  Every field, integer
   value and sign, width class, byte string, list length and order is preserved; nothing is
   dropped, reordered or converted lossily."

  * "valid wire encoding" is the relation `Spec.EncFile F x` of Sml/Spec/Grammar.lean: a
    declarative reading of the SML grammar, one relation `Enc<T> value bytes` per grammar symbol,
    which does not mention the parsers.  It admits every TLF the positional TLF rule accepts
    (multi-byte, non-minimal), every transmitted integer width 1..size, both time encodings,
    optional fields present or absent, and any number of list entries and messages.
  * `complete`: the allocating parser returns exactly `F`.  `complete_streaming`: the events of
    the streaming parser are error-free and reassemble (Sml/Spec/Events.lean) to exactly
    `F.messages`.  Equality of the result with `F` is equality of the whole AST: every field,
    value, sign, width class, byte string, list length and order.
  * The per-symbol lemmas hold for an encoding followed by arbitrary further input.

  All statements hold for every file and every encoding (no length bound).
-/
namespace Sml.C03
open Sml Sml.Spec

/-! ### 1. files -/

theorem complete (F : File) (x : Bytes) (h : EncFile F x) : parseFile x = .ok F :=
  (Gram.parseFile_iff x F).2 h

theorem complete_streaming (F : File) (x : Bytes) (h : EncFile F x) :
    ∃ evs : List ParseEvent,
      C09.events x = evs.map SParser.SItem.ev ∧ reassemble evs = some F.messages :=
  (C09.agree_ok x F).1 (complete F x h)

/-! ### 2. every grammar symbol, followed by arbitrary further input -/

theorem complete_tlf (t : Tlf) (e rest : Bytes) (h : EncTlf t e) :
    parseTlf (e ++ rest) = .ok (t, rest) := Gram.parses_tlf.complete t e rest h

theorem complete_octet (v e rest : Bytes) (h : EncOctet v e) :
    parseOctet (e ++ rest) = .ok (v, rest) := Gram.parses_octet.complete v e rest h

/-- Unsigned8/16/32/64 (`size` = 1, 2, 4, 8) sent in any admissible width -/
theorem complete_unsigned (size : Nat) (hs : size ∈ [1, 2, 4, 8]) (v : Int) (e rest : Bytes)
    (h : EncUnsigned size v e) : parseInt false size (e ++ rest) = .ok (v, rest) :=
  (Gram.parses_unsigned size).complete v e rest h

/-- Integer8/16/32/64: value and sign -/
theorem complete_signed (size : Nat) (hs : size ∈ [1, 2, 4, 8]) (v : Int) (e rest : Bytes)
    (h : EncSigned size v e) : parseInt true size (e ++ rest) = .ok (v, rest) :=
  (Gram.parses_signed size).complete v e rest h

theorem complete_time (t : Time) (e rest : Bytes) (h : EncTime t e) :
    parseTime (e ++ rest) = .ok (t, rest) := Gram.parses_time.complete t e rest h

/-- every value type, with its width class -/
theorem complete_value (v : Value) (e rest : Bytes) (h : EncValue v e) :
    parseValue (e ++ rest) = .ok (v, rest) := Gram.parses_value.complete v e rest h

theorem complete_status (s : Status) (e rest : Bytes) (h : EncStatus s e) :
    parseStatus (e ++ rest) = .ok (s, rest) := Gram.parses_status.complete s e rest h

/-- optional fields, present or absent -/
theorem complete_opt_octet (v : Option Bytes) (e rest : Bytes) (h : EncOpt EncOctet v e) :
    parseOpt parseOctet (e ++ rest) = .ok (v, rest) := Gram.p_optOctet.complete v e rest h

theorem complete_opt_time (v : Option Time) (e rest : Bytes) (h : EncOpt EncTime v e) :
    parseOpt parseTime (e ++ rest) = .ok (v, rest) := Gram.p_optTime.complete v e rest h

theorem complete_entry (x : ListEntry) (e rest : Bytes) (h : EncListEntry x e) :
    parseListEntry (e ++ rest) = .ok (x, rest) := Gram.parses_listEntry.complete x e rest h

/-- a value list of any length, in order -/
theorem complete_valList (xs : List ListEntry) (e rest : Bytes) (h : EncValList xs e) :
    parseList (e ++ rest) = .ok (xs, rest) := Gram.parses_list.complete xs e rest h

theorem complete_open (x : OpenResponse) (e rest : Bytes) (h : EncOpenResponse x e) :
    parseOpenResponse (e ++ rest) = .ok (x, rest) := Gram.parses_openResponse.complete x e rest h

theorem complete_close (x : CloseResponse) (e rest : Bytes) (h : EncCloseResponse x e) :
    parseCloseResponse (e ++ rest) = .ok (x, rest) :=
  Gram.parses_closeResponse.complete x e rest h

theorem complete_getList (x : GetListResponse) (e rest : Bytes) (h : EncGetListResponse x e) :
    parseGetListResponse (e ++ rest) = .ok (x, rest) :=
  Gram.parses_getListResponse.complete x e rest h

theorem complete_body (x : MessageBody) (e rest : Bytes) (h : EncMessageBody x e) :
    parseMessageBody (e ++ rest) = .ok (x, rest) := Gram.parses_messageBody.complete x e rest h

theorem complete_message (m : Message) (e rest : Bytes) (h : EncMessage m e) :
    parseMessage (e ++ rest) = .ok (m, rest) := Gram.parses_message.complete m e rest h

/-! ### 3. non-vacuity: a concrete file and a concrete encoding -/

def sampleOpenRes : OpenResponse :=
  { codepage := none, clientId := none, reqFileId := [0xaa, 0xbb], serverId := [0x0a, 0x0b, 0x0c],
    refTime := some (.secIndex 4660), smlVersion := none }

def sampleOpen : Message :=
  { transactionId := [1, 2, 3, 4], groupNo := 0, abortOnError := 0,
    messageBody := .openResponse sampleOpenRes }

/-- status word sent in 2 bytes, scaler -1, negative I16 sent in 2 bytes -/
def sampleEntry1 : ListEntry :=
  { objName := [1, 0, 1, 8, 0, 0xff], status := some (.status 2 386), valTime := none,
    unit := some 30, scaler := some (-1), value := .int 2 (-2), valueSignature := none }

/-- object name behind a 2-byte TLF, standard time, U32 sent in 3 bytes, a present but empty
    signature (needs the non-minimal TLF `80 02`) -/
def sampleEntry2 : ListEntry :=
  { objName := [0xaa, 0xbb], status := none, valTime := some (.secIndex 42), unit := none,
    scaler := none, value := .uns 4 65536, valueSignature := some [] }

/-- a time value in the workaround encoding -/
def sampleEntry3 : ListEntry :=
  { objName := [0xcc], status := none, valTime := none, unit := none, scaler := none,
    value := .list (.time (.secIndex 7)), valueSignature := none }

def sampleListRes : GetListResponse :=
  { clientId := none, serverId := [0x0a, 0x0b, 0x0c],
    listName := some [1, 0, 0x62, 0x0a, 0xff, 0xff],
    actSensorTime := some (.secIndex 66051),
    valList := [sampleEntry1, sampleEntry2, sampleEntry3],
    listSignature := none, actGatewayTime := none }

def sampleList : Message :=
  { transactionId := [1, 2, 3, 5], groupNo := 0, abortOnError := 0,
    messageBody := .getListResponse sampleListRes }

def sampleClose : Message :=
  { transactionId := [1, 2, 3, 6], groupNo := 0, abortOnError := 0,
    messageBody := .closeResponse { globalSignature := none } }

def sampleFile : File := { messages := [sampleOpen, sampleList, sampleClose] }

def openBytes : Bytes :=
  [0x76, 0x05, 1, 2, 3, 4, 0x62, 0, 0x62, 0, 0x72, 0x63, 0x01, 0x01,
   0x76, 0x01, 0x01, 0x03, 0xaa, 0xbb, 0x04, 0x0a, 0x0b, 0x0c,
   0x72, 0x62, 0x01, 0x65, 0, 0, 0x12, 0x34, 0x01,
   0x63, 0xa4, 0xeb, 0x00]

def listBytes : Bytes :=
  [0x76, 0x05, 1, 2, 3, 5, 0x62, 0, 0x62, 0, 0x72, 0x63, 0x07, 0x01,
   0x77, 0x01, 0x04, 0x0a, 0x0b, 0x0c, 0x07, 1, 0, 0x62, 0x0a, 0xff, 0xff, 0x65, 0, 1, 2, 3,
   0x73,
     0x77, 0x07, 1, 0, 1, 8, 0, 0xff, 0x63, 0x01, 0x82, 0x01, 0x62, 0x1e, 0x52, 0xff,
       0x53, 0xff, 0xfe, 0x01,
     0x77, 0x80, 0x04, 0xaa, 0xbb, 0x01, 0x72, 0x62, 0x01, 0x65, 0, 0, 0, 0x2a, 0x01, 0x01,
       0x64, 0x01, 0, 0, 0x80, 0x02,
     0x77, 0x02, 0xcc, 0x01, 0x01, 0x01, 0x01, 0x72, 0x62, 0x01, 0x65, 0, 0, 0, 7, 0x01,
   0x01, 0x01,
   0x63, 0x6e, 0x3f, 0x00]

def closeBytes : Bytes :=
  [0x76, 0x05, 1, 2, 3, 6, 0x62, 0, 0x62, 0, 0x72, 0x63, 0x02, 0x01, 0x71, 0x01,
   0x63, 0x32, 0x1f, 0x00]

/-- another encoding of `sampleClose`: 2-byte list TLF `f0 06`, transaction id behind the 2-byte
    TLF `80 06`, group number in the 2-byte-TLF form `e0 03` -/
def closeBytes' : Bytes :=
  [0xf0, 0x06, 0x80, 0x06, 1, 2, 3, 6, 0xe0, 0x03, 0, 0x62, 0, 0x72, 0x63, 0x02, 0x01, 0x71, 0x01,
   0x63, 0x0c, 0xc3, 0x00]

def sampleBytes : Bytes := openBytes ++ (listBytes ++ closeBytes)

def sampleBytes' : Bytes := openBytes ++ (listBytes ++ closeBytes')

/-! The encodings are proved valid from the grammar alone (`Gram.mk_*` are the introduction rules
    of the relations, i.e. unfoldings of their definitions); the parsers are not involved. -/

theorem sample_zero : EncUnsigned 1 0 [0x62, 0] :=
  Gram.mk_unsigned 1 0 [0x62] [0] rfl (by decide) (by decide) (by decide)

theorem sample_one : EncUnsigned 1 1 [0x62, 0x01] :=
  Gram.mk_unsigned 1 1 [0x62] [1] rfl (by decide) (by decide) (by decide)

theorem sample_server : EncOctet [0x0a, 0x0b, 0x0c] [0x04, 0x0a, 0x0b, 0x0c] :=
  Gram.mk_octet [0x04] _ rfl

theorem sample_open_enc : EncMessage sampleOpen openBytes := by
  have o1 : EncOctet [1, 2, 3, 4] [0x05, 1, 2, 3, 4] := Gram.mk_octet [0x05] _ rfl
  have tag : EncUnsigned 4 0x0101 [0x63, 0x01, 0x01] :=
    Gram.mk_unsigned 4 _ [0x63] [0x01, 0x01] rfl (by decide) (by decide) (by decide)
  have rq : EncOctet [0xaa, 0xbb] [0x03, 0xaa, 0xbb] := Gram.mk_octet [0x03] _ rfl
  have secs : EncUnsigned 4 4660 [0x65, 0, 0, 0x12, 0x34] :=
    Gram.mk_unsigned 4 _ [0x65] [0, 0, 0x12, 0x34] rfl (by decide) (by decide) (by decide)
  have tm : EncTime (.secIndex 4660) [0x72, 0x62, 0x01, 0x65, 0, 0, 0x12, 0x34] :=
    Gram.mk_time_list [0x72] _ _ _ rfl sample_one secs
  have body : EncOpenResponse sampleOpenRes _ :=
    Gram.mk_openResponse (tl := [0x76]) rfl (Gram.mk_none _) (Gram.mk_none _) rq sample_server
      (Gram.mk_some tm (by decide)) (Gram.mk_none _)
  have head : EncMessageHead sampleOpen _ :=
    Gram.mk_messageHead (tl := [0x76]) rfl o1 sample_zero sample_zero
      (Gram.mk_body_open (tl := [0x72]) rfl tag body)
  exact Gram.mk_message head (Gram.mk_crc _ 0xa4 0xeb (by decide +kernel))

theorem sample_entry1_enc : EncListEntry sampleEntry1
    [0x77, 0x07, 1, 0, 1, 8, 0, 0xff, 0x63, 0x01, 0x82, 0x01, 0x62, 0x1e, 0x52, 0xff,
     0x53, 0xff, 0xfe, 0x01] := by
  have nm : EncOctet [1, 0, 1, 8, 0, 0xff] [0x07, 1, 0, 1, 8, 0, 0xff] := Gram.mk_octet [0x07] _ rfl
  have st : EncStatus (.status 2 386) [0x63, 0x01, 0x82] :=
    Gram.mk_status 2 386 [0x63] [0x01, 0x82] rfl (by decide) (by decide)
      (C12.narrow_least 2 (by decide)) (by decide)
  have un : EncUnsigned 1 30 [0x62, 0x1e] :=
    Gram.mk_unsigned 1 30 [0x62] [0x1e] rfl (by decide) (by decide) (by decide)
  have sc : EncSigned 1 (-1) [0x52, 0xff] :=
    Gram.mk_signed 1 (-1) [0x52] [0xff] rfl (by decide) (by decide) (by decide)
  have vl : EncValue (.int 2 (-2)) [0x53, 0xff, 0xfe] :=
    Gram.mk_value_int 2 (-2) [0x53] [0xff, 0xfe] rfl (by decide) (by decide)
      (C12.narrow_least 2 (by decide)) (by decide)
  exact Gram.mk_listEntry (x := sampleEntry1) (tl := [0x77]) rfl nm (Gram.mk_some st (by decide))
    (Gram.mk_none _) (Gram.mk_some un (by decide)) (Gram.mk_some sc (by decide)) vl (Gram.mk_none _)

theorem sample_entry2_enc : EncListEntry sampleEntry2
    [0x77, 0x80, 0x04, 0xaa, 0xbb, 0x01, 0x72, 0x62, 0x01, 0x65, 0, 0, 0, 0x2a, 0x01, 0x01,
     0x64, 0x01, 0, 0, 0x80, 0x02] := by
  have nm : EncOctet [0xaa, 0xbb] [0x80, 0x04, 0xaa, 0xbb] := Gram.mk_octet [0x80, 0x04] _ rfl
  have secs : EncUnsigned 4 42 [0x65, 0, 0, 0, 0x2a] :=
    Gram.mk_unsigned 4 _ [0x65] [0, 0, 0, 0x2a] rfl (by decide) (by decide) (by decide)
  have tm : EncTime (.secIndex 42) [0x72, 0x62, 0x01, 0x65, 0, 0, 0, 0x2a] :=
    Gram.mk_time_list [0x72] _ _ _ rfl sample_one secs
  have vl : EncValue (.uns 4 65536) [0x64, 0x01, 0, 0] :=
    Gram.mk_value_uns 4 65536 [0x64] [0x01, 0, 0] rfl (by decide) (by decide)
      (C12.narrow_least 3 (by decide)) (by decide)
  have sg : EncOctet [] [0x80, 0x02] := Gram.mk_octet [0x80, 0x02] [] rfl
  exact Gram.mk_listEntry (x := sampleEntry2) (tl := [0x77]) rfl nm (Gram.mk_none _)
    (Gram.mk_some tm (by decide)) (Gram.mk_none _) (Gram.mk_none _) vl (Gram.mk_some sg (by decide))

theorem sample_entry3_enc : EncListEntry sampleEntry3
    [0x77, 0x02, 0xcc, 0x01, 0x01, 0x01, 0x01, 0x72, 0x62, 0x01, 0x65, 0, 0, 0, 7, 0x01] := by
  have nm : EncOctet [0xcc] [0x02, 0xcc] := Gram.mk_octet [0x02] _ rfl
  have tm : EncTime (.secIndex 7) [0x65, 0, 0, 0, 7] :=
    Gram.mk_time_workaround 7 [0x65] [0, 0, 0, 7] rfl rfl (by decide)
  have vl : EncValue (.list (.time (.secIndex 7))) [0x72, 0x62, 0x01, 0x65, 0, 0, 0, 7] :=
    Gram.mk_value_list [0x72] _ _ rfl (Gram.mk_listType _ _ _ sample_one tm)
  exact Gram.mk_listEntry (x := sampleEntry3) (tl := [0x77]) rfl nm (Gram.mk_none _)
    (Gram.mk_none _) (Gram.mk_none _) (Gram.mk_none _) vl (Gram.mk_none _)

-- (`maxRecDepth`: the kernel evaluates the CRC fold over 130 bytes as one nested term)
set_option maxRecDepth 100000 in
theorem sample_list_enc : EncMessage sampleList listBytes := by
  have o1 : EncOctet [1, 2, 3, 5] [0x05, 1, 2, 3, 5] := Gram.mk_octet [0x05] _ rfl
  have tag : EncUnsigned 4 0x0701 [0x63, 0x07, 0x01] :=
    Gram.mk_unsigned 4 _ [0x63] [0x07, 0x01] rfl (by decide) (by decide) (by decide)
  have ln : EncOctet [1, 0, 0x62, 0x0a, 0xff, 0xff] [0x07, 1, 0, 0x62, 0x0a, 0xff, 0xff] :=
    Gram.mk_octet [0x07] _ rfl
  have tm : EncTime (.secIndex 66051) [0x65, 0, 1, 2, 3] :=
    Gram.mk_time_workaround 66051 [0x65] [0, 1, 2, 3] rfl rfl (by decide)
  have vs : EncValList [sampleEntry1, sampleEntry2, sampleEntry3] _ :=
    Gram.mk_valList (tl := [0x73]) rfl
      (.cons sample_entry1_enc (.cons sample_entry2_enc (.cons sample_entry3_enc .nil)))
  have body : EncGetListResponse sampleListRes _ :=
    Gram.mk_getListResponse (tl := [0x77]) rfl (Gram.mk_none _) sample_server
      (Gram.mk_some ln (by decide)) (Gram.mk_some tm (by decide)) vs (Gram.mk_none _)
      (Gram.mk_none _)
  have head : EncMessageHead sampleList _ :=
    Gram.mk_messageHead (tl := [0x76]) rfl o1 sample_zero sample_zero
      (Gram.mk_body_getList (tl := [0x72]) rfl tag body)
  exact Gram.mk_message head (Gram.mk_crc _ 0x6e 0x3f (by decide +kernel))

theorem sample_close_enc : EncMessage sampleClose closeBytes := by
  have o1 : EncOctet [1, 2, 3, 6] [0x05, 1, 2, 3, 6] := Gram.mk_octet [0x05] _ rfl
  have tag : EncUnsigned 4 0x0201 [0x63, 0x02, 0x01] :=
    Gram.mk_unsigned 4 _ [0x63] [0x02, 0x01] rfl (by decide) (by decide) (by decide)
  have body : EncCloseResponse ⟨none⟩ _ :=
    Gram.mk_closeResponse (tl := [0x71]) rfl (Gram.mk_none _)
  have head : EncMessageHead sampleClose _ :=
    Gram.mk_messageHead (tl := [0x76]) rfl o1 sample_zero sample_zero
      (Gram.mk_body_close (tl := [0x72]) rfl tag body)
  exact Gram.mk_message head (Gram.mk_crc _ 0x32 0x1f (by decide +kernel))

/-- the second encoding of the same close message (multi-byte TLFs everywhere) -/
theorem sample_close_enc' : EncMessage sampleClose closeBytes' := by
  have o1 : EncOctet [1, 2, 3, 6] [0x80, 0x06, 1, 2, 3, 6] := Gram.mk_octet [0x80, 0x06] _ rfl
  have z' : EncUnsigned 1 0 [0xe0, 0x03, 0] :=
    Gram.mk_unsigned 1 0 [0xe0, 0x03] [0] rfl (by decide) (by decide) (by decide)
  have tag : EncUnsigned 4 0x0201 [0x63, 0x02, 0x01] :=
    Gram.mk_unsigned 4 _ [0x63] [0x02, 0x01] rfl (by decide) (by decide) (by decide)
  have body : EncCloseResponse ⟨none⟩ _ :=
    Gram.mk_closeResponse (tl := [0x71]) rfl (Gram.mk_none _)
  have head : EncMessageHead sampleClose _ :=
    Gram.mk_messageHead (tl := [0xf0, 0x06]) rfl o1 z' sample_zero
      (Gram.mk_body_close (tl := [0x72]) rfl tag body)
  exact Gram.mk_message head (Gram.mk_crc _ 0x0c 0xc3 (by decide +kernel))

/-- the hypothesis of `complete` is satisfiable by a non-trivial file: three messages, three list
    entries, multi-byte and non-minimal TLFs, both time encodings, I16 in 2 bytes, U32 in 3 bytes -/
theorem sample_file_enc : EncFile sampleFile sampleBytes :=
  EncSeq.cons sample_open_enc (.cons sample_list_enc (.cons sample_close_enc .nil))

/-- ... and by a second, different encoding of the same file -/
theorem sample_file_enc' : EncFile sampleFile sampleBytes' :=
  EncSeq.cons sample_open_enc (.cons sample_list_enc (.cons sample_close_enc' .nil))

-- the conclusions, evaluated independently of the theorems
set_option maxRecDepth 100000 in
example : (parseFile sampleBytes).toOption = some sampleFile := by decide +kernel
set_option maxRecDepth 100000 in
example : (parseFile sampleBytes').toOption = some sampleFile := by decide +kernel
example : sampleBytes ≠ sampleBytes' := by decide +kernel
example : sampleBytes.length = 154 ∧ sampleBytes'.length = 157 := by decide +kernel
-- streaming parser: 1 + (1 + 3 + 1) + 1 events, reassembled to the three messages
set_option maxRecDepth 100000 in
example : (C09.events sampleBytes).length = 7 := by decide +kernel
set_option maxRecDepth 100000 in
example : ((C09.evsOf (C09.events sampleBytes)).bind reassemble) = some sampleFile.messages := by
  decide +kernel
-- instances of the theorems
example : parseFile sampleBytes = .ok sampleFile := complete _ _ sample_file_enc
example : parseFile sampleBytes' = .ok sampleFile := complete _ _ sample_file_enc'
example : parseMessage (closeBytes' ++ [0xde, 0xad]) = .ok (sampleClose, [0xde, 0xad]) :=
  complete_message _ _ _ sample_close_enc'

end Sml.C03
